import Sympler.Stages
import Sympler.Gen.StagesGen
/-!
# Bridge between the stage-search rule regenerated from symbol.cpp (`Sympler/Gen/StagesGen.lean`, translator
`translate/t_stages.py`) and the model `Sympler/Stages.lean` (property C06).  Core Lean only.
-/
namespace Sympler.Stages

/-- C `int` stage: `-1` = undetermined -/
def enc : Option Nat → Int
  | none => -1
  | some k => (k : Int)

/-- **the producer rule**: what the model's `visit` does with the stage of a producer `p` of a used name is, at every one of the
sites of symbol.cpp (all of the same form, all excluding `this`), the generated rule: an undetermined producer sets `tooEarly`
and resets the own stage; otherwise the own stage is raised to `producer + 1` iff `producer ≥ own`. -/
theorem Bridge_visit (st : Nat → Option Nat) (w : Walk) (p : Sym) :
    let r := Sympler.Gen.Stages.producerRule (enc (st p.id)) (enc w.stage)
    enc (visit st w p).stage = r.2 ∧ (visit st w p).tooEarly = (r.1 || w.tooEarly) ∧ (visit st w p).nothing = false := by
  unfold visit Sympler.Gen.Stages.producerRule
  cases h : st p.id with
  | none => simp [enc]
  | some k =>
    have h1 : ¬ ((k : Int) = -1) := by omega
    cases hw : w.stage with
    | none => simp [enc, h1]
    | some m =>
      have h2 : ((k : Int) ≥ (m : Int)) ↔ k ≥ m := by omega
      by_cases hk : k ≥ m <;> simp [enc, h1, hk, h2]

/-- every site excludes the symbol itself; the default number of sweeps and the bound test of `setSymbolStages`
(`iter` fails exactly when more than `stageIterations` sweeps would be needed) -/
theorem Bridge_stage_constants :
    Sympler.Gen.Stages.selfExcludedSites = Sympler.Gen.Stages.producerSites ∧ 0 < Sympler.Gen.Stages.producerSites ∧
    Sympler.Gen.Stages.stageIterationsDefault = 20 ∧
    (∀ c s, Sympler.Gen.Stages.boundExceeded c s = decide (c > s)) := ⟨by decide, by decide, rfl, fun _ _ => rfl⟩


/-- **the early pass (`stage="0"`) is staged by a faithful twin** (regenerated): `findStageForSymbolName_0` searches the same five kinds
of producer registries, in the same order, as `findStageForSymbolName` - each time the `_0` registry, and the default-pass function
none of them.  (A producer looked up in the wrong pass's registry is not found: reader and producer then get the same stage and the
input order decides - the seeded change C06c.) -/
theorem C06_stage0_twin :
    Sympler.Gen.Stages.stageRegistries0 = Sympler.Gen.Stages.stageRegistries ∧ Sympler.Gen.Stages.stageRegistries0AllEarly = true ∧
    Sympler.Gen.Stages.stageRegistriesAnyEarly = false ∧ Sympler.Gen.Stages.stageRegistries.length = 5 := by decide +kernel

end Sympler.Stages
