import Sympler.GridLemmas
import Sympler.Geom

/-!
# C01 — the generated neighbour tables and the static checks

`C01_gen_tables_ok`: complete check (by `decide`) of the tables in `Sympler/Gen/CellTablesGen.lean`
(`Cell::c_offsets`, `OFFSET2NEIGHBOR`, `INV_NEIGHBOR`); `C01_bridge_*`: the kernels regenerated from `addPair` / `cellDist`
are the functions of `Sympler.Geom`.

`staticChecks` is the executable statement of the static hypotheses: `Sympler.Grid.linksOKb` ("for every cell and every offset
whose neighbour exists exactly one link represents it, with the `cellDist` distance; one local link per cell; nothing else;
outlets = that neighbour"), together with `gridOKb` (hypothesis `GridOK` + `OutSingle` of the C09 theorems) and `GeomOK`
(hypothesis of `C09_wrap_exact` / `C09_count_conserved`).  The driver `grid` prints `gridok 1` for every grid the correspondence
`sim/corr_grid.py` builds (native evaluation).  `C01_static_checks_sound`: the check implies the hypotheses; that it never fails on
a grid the code builds is `Props/C01General.lean`.  Core Lean only.
-/
namespace Sympler.C01
open Sympler Sympler.Grid Sympler.Gen.CellTables

/-- **`C01_gen_tables_ok`** — the generated tables are consistent:
26 offsets; `OFFSET2NEIGHBOR(c_offsets[n]) = n`; `c_offsets[INV_NEIGHBOR(n)] = −c_offsets[n]` and
`INV_NEIGHBOR` is an involution on `0..25`; the offsets are pairwise different, each has components in
`{−1,0,1}` and is not `0`, and every non-zero vector of `{−1,0,1}³` occurs. -/
theorem C01_gen_tables_ok :
    numNeighbors = 26 ∧ offsets.length = 26 ∧
    (∀ n : Nat, n < 26 → offset2neighbor (offsets.getD n (0, 0, 0)) = (n : Int)) ∧
    (∀ n : Nat, n < 26 → 0 ≤ invNeighbor n ∧ invNeighbor n < 26 ∧ invNeighbor (invNeighbor n) = n ∧
      offsets.getD (invNeighbor n).toNat (0, 0, 0) =
        (-(offsets.getD n (0, 0, 0)).1, -(offsets.getD n (0, 0, 0)).2.1, -(offsets.getD n (0, 0, 0)).2.2)) ∧
    offsets.Nodup ∧
    (∀ o ∈ offsets, o.1 ∈ [(-1 : Int), 0, 1] ∧ o.2.1 ∈ [(-1 : Int), 0, 1] ∧ o.2.2 ∈ [(-1 : Int), 0, 1] ∧
      o ≠ (0, 0, 0)) ∧
    (∀ a ∈ [(-1 : Int), 0, 1], ∀ b ∈ [(-1 : Int), 0, 1], ∀ c ∈ [(-1 : Int), 0, 1],
      (a, b, c) ≠ (0, 0, 0) → (a, b, c) ∈ offsets) :=
  ⟨by decide, by decide, by decide, by decide, by decide, by decide, by decide⟩

/-- **bridge** between the kernels regenerated from `addPair` / `cellDist` (cell.h, cell.cpp) and the definitions the
general theorems of `Props/C01.lean` speak about (`Sympler.Geom`): the same functions, for all arguments.  A changed
sign, operand or comparison in the C++ makes one of these three statements false. -/
theorem C01_bridge_addPair (dir : Int) (cd r1 c1 r2 c2 : Rat) :
    addPairComponent dir cd r1 c1 r2 c2 = Sympler.Geom.addPair1 dir cd r1 c1 r2 c2 := by
  unfold addPairComponent Sympler.Geom.addPair1; grind

theorem C01_bridge_cellDist (o : Int) (w : Rat) :
    cellDistComponent o w w = Sympler.Geom.cellDist1 w o := by
  unfold cellDistComponent Sympler.Geom.cellDist1; rfl

theorem C01_bridge_keep (a c : Rat) : addPairKeeps a c = decide (a < c) := rfl

/-- the check implies the static hypotheses of the C09 theorems -/
theorem C01_static_checks_sound {cutoff : Rat} {box : V3 Rat} {per : V3 Bool}
    (h : staticChecks cutoff box per = true) :
    ∃ G, subdivide cutoff (0, 0, 0) box per = some G ∧ GridOK G ∧ OutSingle G ∧ GeomOK G per ∧
      linksOKb G per = true := by
  unfold staticChecks at h
  cases hs : subdivide cutoff (0, 0, 0) box per with
  | none => rw [hs] at h; simp at h
  | some G =>
    rw [hs] at h
    simp only [Bool.and_eq_true, decide_eq_true_eq] at h
    obtain ⟨⟨⟨h1, h2⟩, h3⟩, _⟩ := h
    exact ⟨G, rfl, (gridOKb_sound h1).1, (gridOKb_sound h1).2, h3, h2⟩

end Sympler.C01
