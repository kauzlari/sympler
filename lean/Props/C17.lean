import Sympler.ValidateLemmas
import Sympler.Gen.ValidateGen
/-!
# C17 — invalid input and failing helper tools are reported as errors, never ignored   (PARTIAL)

Theorems about `Sympler.Validate`, the model of the decision chain
`instantiateChild` → `PropertyList::fromXML` → expression checks → `cellSubdivide` →
`FunctionCompiler::compile/setParserAndCompile` → `main`.

PARTIAL — what is NOT modelled and therefore not proved here:
* every module's own `setup()`-time checks (hundreds of `throw gError` sites: unknown species, missing
  reflector, …) — only the generic chain above is modelled;
* "never a signal, never hangs": a run-time statement about the process; it is only observed by the
  correspondence check `/verif/sim/corr_invalid.py` (oracle "invalid ⇒ non-zero exit, no signal, no
  time-out, loop not started").  The model of `main` knows `gError` only; an exception of another type
  or a null pointer is outside it.  Counter-examples on the real binary (found by the check, all are
  single deletions from a valid input):
  - no `<Controller>` and nothing else that needs one: `Simulation::setup` checks `m_phase` only,
    `Simulation::run` calls `m_controller->run()` with `m_controller == NULL` (SIGSEGV);
  - no `<Phase>` but an integrator or a symbol: `Simulation::setup` runs the children's `setup()` BEFORE
    its `No Phase defined.` check, and they dereference the phase (SIGSEGV).  `simChildren` reports
    `noPhase` for every input without Phase; the real code reaches that message only if no child needs the phase;
  - an undeclared attribute of a particle creator (`allowUnknown`) is never looked at when no species
    exists (`checkAttr` returns `ok none` there, as the code does);
* the root element's name is never compared with `Simulation` (`Simulation::readWithArg` reads whatever
  the root is), so check (1) starts at the children of the root;
* INT: the value is `(int) strtol(...)`: texts up to `LONG_MAX` pass the range guard and are reduced
  modulo 2^32 (`timesteps="4294967299"` runs 3 steps).  `parseInt` models this as it is (`wrap32`);
* DOUBLE values are exact rationals with IEEE overflow/underflow, not rounded to the nearest double;
* the expression parser is abstract here (`ExprEnv`); its totality is the subject of C03.
-/
open Sympler.Validate

/-- A module name that is in no factory of its parent is an error — for parents with a plain factory
look-up (`Phase`, `Boundary`, `Controller`, `Meter`, …) and for `Simulation::instantiateChild`, whatever
has been read before; an attribute name that the module does not declare is an error unless the module
allows unknown attributes. -/
theorem C17_unknown :
    (∀ (known : List String) (name : String), name ∉ known →
      checkModule known name = .error .unknownModule) ∧
    (∀ (T : SimTables) (st : SimState) (name : String), name ≠ "Phase" → name ≠ "Controller" →
      name ∉ T.forces → name ∉ T.meters → name ∉ T.callables → name ∉ T.weightingFunctions →
      name ∉ T.symbols → simInstantiate T st name = .error .unknownModule) ∧
    (∀ (T : SimTables) (st : SimState) (pre post : List String) (name : String) (st' : SimState),
      simInstantiate T st' name = .error .unknownModule →
      (∀ k, simChildren T st (pre ++ name :: post) = .ok k → False)) ∧
    (∀ (m : ModuleSpec) (name : String) (text : List Char), (∀ a ∈ m.attrs, a.name ≠ name) →
      m.allowUnknown = false → checkAttr m name text = .error .unknownAttr) := by
  refine ⟨fun known name h => by simp [checkModule, h],
    fun T st name h1 h2 h3 h4 h5 h6 h7 => (simInstantiate_unknown_iff T st name).mpr ⟨h1, h2, h3, h4, h5, h6, h7⟩,
    fun T st pre post name st' hun k hk => ?_, fun m name text h hu => ?_⟩
  · -- the run instantiated `name` in some state, and `unknownModule` does not depend on the state
    obtain ⟨s, s', hs⟩ := simChildren_ok_mem hk name (by simp)
    rw [(simInstantiate_unknown_iff T s name).mpr ((simInstantiate_unknown_iff T st' name).mp hun)] at hs
    cases hs
  · have : m.find name = none := List.find?_eq_none.mpr (fun a ha => by simpa using h a ha)
    simp [checkAttr, this, hu]

/- non-vacuity: a declared attribute and a declared module pass, misspelt ones do not. -/
example : checkModule ["ReflectorMirror", "ParticleCreatorFile"] "ReflectorMirror" = .ok () := by decide
example : checkModule ["ReflectorMirror", "ParticleCreatorFile"] "ReflectorMiror" = .error .unknownModule := by
  decide
example : checkAttr ⟨[⟨"dt", .double, some (.dblCmp .gt 0)⟩], false⟩ "dtt" ['1'] = .error .unknownAttr := by
  decide

/-- The strict conversions of `fromXML` accept exactly the complete numbers (grammar `CompleteInt` /
`CompleteDouble` of `ValidateLemmas`, stated independently of the scanners), INT additionally subject to the
length/`LONG_MAX` guard; every other text is an error. -/
theorem C17_malformed_number (s : List Char) :
    (strictIntSyntax s = true ↔ CompleteInt s) ∧
    (strictDoubleSyntax s = true ↔ CompleteDouble s) ∧
    ((∃ v, parseInt s = .ok v) ↔ CompleteInt s ∧ intRangeGuard s = false) ∧
    ((∃ v, parseDouble s = .ok v) ↔ CompleteDouble s) ∧
    (¬ CompleteInt s → parseInt s = .error .intRange ∨ parseInt s = .error .notInt) ∧
    (¬ CompleteDouble s → parseDouble s = .error .notNumber) ∧
    (∀ a : AttrSpec, a.type = .int → ¬ CompleteInt s → ∃ k, checkValue a s = .error k) ∧
    (∀ a : AttrSpec, a.type = .double → ¬ CompleteDouble s → checkValue a s = .error .notNumber) := by
  refine ⟨strictIntSyntax_iff s, strictDoubleSyntax_iff s, parseInt_ok_iff s, parseDouble_ok_iff s,
    parseInt_error_of_not_complete s, parseDouble_error_of_not_complete s, ?_, ?_⟩
  · intro a ha h
    rcases parseInt_error_of_not_complete s h with e | e <;> simp [checkValue, parseValue, ha, e, Except.map]
  · intro a ha h
    simp [checkValue, parseValue, ha, parseDouble_error_of_not_complete s h, Except.map]

/- non-vacuity: complete numbers are accepted, blanks around them included; incomplete ones are outside the grammar. -/
example : parseInt [' ', '3', ' '] = .ok 3 := by decide
example : CompleteInt [' ', '3', ' '] := (strictIntSyntax_iff _).mp (by decide)
set_option exponentiation.threshold 2000 in
example : parseDouble [' ', '0', '.', '5', ' '] = .ok (.fin (mkRat 1 2)) := by decide +kernel
example : CompleteDouble ['0', 'x', '1', 'p', '-', '4'] := (strictDoubleSyntax_iff _).mp (by decide)
example : ¬ CompleteDouble ['1', 'e', '-', '5', 'x'] :=
  mt (strictDoubleSyntax_iff _).mpr (by decide)
example : ¬ CompleteInt ['2', 'x', '0'] :=
  mt (strictIntSyntax_iff _).mpr (by decide)
example : ¬ CompleteInt ['1', '.', '5'] :=
  mt (strictIntSyntax_iff _).mpr (by decide)
example : ¬ CompleteDouble [] :=
  mt (strictDoubleSyntax_iff _).mpr (by decide)
/-- 20 digits: stopped by the length guard before `strtol` is called. -/
example : parseInt "99999999999999999999".toList = .error .intRange := by decide +kernel

set_option exponentiation.threshold 2000 in
/-- The conversions in use before commit 1204dc2 (`atoi`/`atof`) did NOT have the property: `1e-5x` was
accepted as `1e-5` and `2x0` as `2`; the strict conversions reject both. -/
theorem C17_malformed_number_old_witness :
    parseDoubleOld ['1', 'e', '-', '5', 'x'] = .ok (.fin (mkRat 1 100000)) ∧
    parseIntOld ['2', 'x', '0'] = .ok 2 ∧
    parseDouble ['1', 'e', '-', '5', 'x'] = .error .notNumber ∧
    parseInt ['2', 'x', '0'] = .error .notInt := by decide +kernel

/-- exactly the six literals are accepted; everything else is `badBool`. -/
theorem C17_bool (s : List Char) :
    (parseBool s = .ok true ↔ s = ['t', 'r', 'u', 'e'] ∨ s = ['y', 'e', 's'] ∨ s = ['1']) ∧
    (parseBool s = .ok false ↔ s = ['f', 'a', 'l', 's', 'e'] ∨ s = ['n', 'o'] ∨ s = ['0']) ∧
    ((s ≠ ['t', 'r', 'u', 'e'] ∧ s ≠ ['y', 'e', 's'] ∧ s ≠ ['1'] ∧
      s ≠ ['f', 'a', 'l', 's', 'e'] ∧ s ≠ ['n', 'o'] ∧ s ≠ ['0']) → parseBool s = .error .badBool) := by
  have e : "true".toList = ['t', 'r', 'u', 'e'] ∧ "yes".toList = ['y', 'e', 's'] ∧ "1".toList = ['1'] ∧
      "false".toList = ['f', 'a', 'l', 's', 'e'] ∧ "no".toList = ['n', 'o'] ∧ "0".toList = ['0'] := by decide
  unfold parseBool
  rw [e.1, e.2.1, e.2.2.1, e.2.2.2.1, e.2.2.2.2.1, e.2.2.2.2.2]
  by_cases hA : s = ['t', 'r', 'u', 'e'] ∨ s = ['y', 'e', 's'] ∨ s = ['1']
  · rcases hA with rfl | rfl | rfl <;> decide
  by_cases hB : s = ['f', 'a', 'l', 's', 'e'] ∨ s = ['n', 'o'] ∨ s = ['0']
  · rcases hB with rfl | rfl | rfl <;> decide
  simp [hA, hB]

example : parseBool ['Y', 'E', 'S'] = .error .badBool := by decide +kernel
example : parseBool ['m', 'a', 'y', 'b', 'e'] = .error .badBool := by decide +kernel

/-- a value that converts but violates the constraint object of its attribute is an error, also through
the attribute loop. -/
theorem C17_constraint (a : AttrSpec) (c : Constraint) (s : List Char) (v : Value)
    (hv : parseValue a.type s = .ok v) (hc : a.constraint = some c) (hviol : c.check v = false) :
    checkValue a s = .error .constraint ∧
    ∀ m : ModuleSpec, m.find a.name = some a → checkAttr m a.name s = .error .constraint := by
  have h1 : checkValue a s = .error .constraint := by simp [checkValue, hv, hc, hviol]
  exact ⟨h1, fun m hm => by simp [checkAttr, hm, h1, Except.map]⟩

set_option exponentiation.threshold 2000 in
/-- non-vacuity: `dt="0"`, `dt="-1"`, `dt="nan"` against `dt > 0`; `dt="0.5"` passes. -/
example : checkValue ⟨"dt", .double, some (.dblCmp .gt 0)⟩ ['0'] = .error .constraint ∧
    checkValue ⟨"dt", .double, some (.dblCmp .gt 0)⟩ ['-', '1'] = .error .constraint ∧
    checkValue ⟨"dt", .double, some (.dblCmp .gt 0)⟩ ['n', 'a', 'n'] = .error .constraint ∧
    checkValue ⟨"dt", .double, some (.dblCmp .gt 0)⟩ ['0', '.', '5'] = .ok (.dbl (.fin (mkRat 1 2))) := by
  decide +kernel

/-- an expression that does not parse, or parses with an unresolved symbol, is an error (and nothing is
compiled: the result is an error whatever the expected size). -/
theorem C17_expr (env : ExprEnv) (n : Nat) (e : List Char) :
    (env.parses e = false → checkExpr env n e = .error .exprSyntax) ∧
    (env.parses e = true → env.resolved e = false → checkExpr env n e = .error .undefinedSymbol) ∧
    (checkExpr env n e = .ok () ↔ env.parses e = true ∧ env.resolved e = true ∧ env.size e = n) := by
  exact ⟨fun h => by simp [checkExpr, h], fun h1 h2 => by simp [checkExpr, h1, h2],
    by simp [checkExpr, ite_eq_iff']⟩

/-- a wrongly typed result (number of entries ≠ expected: vector for scalar, scalar for vector, …) is an
error, in the expression check and in the compile step, before gcc is run. -/
theorem C17_size (env : ExprEnv) (n : Nat) (e : List Char) (o : CompileObs) :
    (env.parses e = true → env.resolved e = true → env.size e ≠ n →
      checkExpr env n e = .error .sizeMismatch) ∧
    (o.gotSize ≠ o.expectedSize → compileStep o = .error .sizeMismatch) := by
  exact ⟨fun h1 h2 h3 => by simp [checkExpr, h1, h2, h3], fun h => by simp [compileStep, h]⟩

example : checkExpr ⟨fun _ => true, fun _ => true, fun _ => 3⟩ 1 ['[', 'r', 'i', 'j', ']'] =
    .error .sizeMismatch := by decide
example : checkExpr ⟨fun _ => true, fun _ => true, fun _ => 3⟩ 3 ['[', 'r', 'i', 'j', ']'] = .ok () := by
  decide

theorem truncRat_ge_two (q : Rat) : truncRat q ≥ 2 ↔ (2 : Rat) ≤ q := by
  unfold truncRat
  split
  · rw [ge_iff_le, Rat.le_floor_iff]; rfl
  · rename_i h
    have hq : q < 0 := Rat.not_le.mp h
    have h0 : (0 : Int) ≤ (-q).floor := by
      rw [Rat.le_floor_iff]
      have : (0 : Rat) ≤ -q := by grind
      exact this
    constructor
    · intro h2; omega
    · intro h2; exfalso; grind

theorem nCells_ge_two (cutoff d : Rat) : nCells cutoff d ≥ 2 ↔ cutoff ≤ 0 ∨ 2 * cutoff ≤ d := by
  unfold nCells
  split
  · rename_i hc
    rw [truncRat_ge_two, ← Rat.not_lt, Rat.div_lt_iff hc, Rat.not_lt]
    exact ⟨Or.inr, fun h => h.resolve_left (Rat.not_le.mpr hc)⟩
  · rename_i hc
    exact ⟨fun _ => Or.inl (Rat.not_lt.mp hc), fun _ => by decide⟩

/-- `cellSubdivide` accepts a box iff the cutoff is not positive (then two cells are forced) or every
box length holds at least two cutoffs; a direction with `L < 2·cutoff` is an error. -/
theorem C17_box (cutoff : Rat) (ds : List Rat) :
    (checkBox cutoff ds = .ok () ↔ (cutoff ≤ 0 ∨ ∀ d ∈ ds, 2 * cutoff ≤ d)) ∧
    (0 < cutoff → (∃ d ∈ ds, d < 2 * cutoff) → checkBox cutoff ds = .error .boxTooSmall) := by
  have hall : (ds.all fun d => decide (nCells cutoff d ≥ 2)) = true ↔ cutoff ≤ 0 ∨ ∀ d ∈ ds, 2 * cutoff ≤ d := by
    simp only [List.all_eq_true, decide_eq_true_eq, nCells_ge_two]
    by_cases hc : cutoff ≤ 0 <;> simp [hc]
  unfold checkBox
  refine ⟨by rw [← hall]; split <;> simp [*], fun hc ⟨d, hd, hlt⟩ => if_neg (fun h => ?_)⟩
  rcases hall.mp h with h' | h'
  · exact absurd hc (Rat.not_lt.mpr h')
  · exact absurd (h' d hd) (Rat.not_le.mpr hlt)

example : checkBox 1 [4, 4, 4] = .ok () := by decide +kernel
example : checkBox 1 [(3 : Rat) / 2, 4, 4] = .error .boxTooSmall := by decide +kernel
example : checkBox 1 [2, 2, 2] = .ok () := by decide +kernel

/-- The compile step succeeds iff everything it observes is nominal; hence every single fault of the
list (compiler missing, exit 1, killed, garbage output, no output, `$TMP` missing or unwritable, dlopen,
dlsym, dlerror, size mismatch) applied to any otherwise successful run is an error — and never `ok`. -/
theorem C17_compile :
    (∀ o : CompileObs, compileStep o = .ok () ↔
      o.gotSize = o.expectedSize ∧ o.systemStatus = 0 ∧ o.dlopenOk = true ∧ o.dlsymOk = true ∧
      o.dlerrorSet = false) ∧
    (∀ (f : Fault) (o : CompileObs), compileStep o = .ok () →
      ∃ k, compileStep (applyFault f o) = .error k) ∧
    (∀ f : Fault, f ∈ Fault.all) := by
  have iff : ∀ o : CompileObs, compileStep o = .ok () ↔
      o.gotSize = o.expectedSize ∧ o.systemStatus = 0 ∧ o.dlopenOk = true ∧ o.dlsymOk = true ∧
      o.dlerrorSet = false := by
    intro o
    simp [compileStep, ite_eq_iff']
  refine ⟨iff, ?_, fun f => by cases f <;> decide⟩
  intro f o hok
  obtain ⟨h1, h2, h3, h4, h5⟩ := (iff o).mp hok
  cases f <;> simp [applyFault, compileStep, h1, h2, h3, h4, h5]

example : compileStep (nominal 3) = .ok () := by decide
example : (Fault.all.map (fun f => compileStep (applyFault f (nominal 1)))) =
    [.error .compileFailed, .error .compileFailed, .error .compileFailed, .error .dlopenFailed,
     .error .dlopenFailed, .error .compileFailed, .error .compileFailed, .error .dlopenFailed,
     .error .dlsymFailed, .error .dlerrorSet, .error .sizeMismatch] := by decide

theorem runAll_ok_iff (cs : List Check) : runAll cs = .ok () ↔ ∀ c ∈ cs, c.run = .ok () := by
  induction cs with
  | nil => simp [runAll]
  | cons d ds ih =>
    unfold runAll
    cases h : d.run with
    | error k => simp [h]
    | ok u => simp [h, ih]

/-- In the model of `main`: if any check of the run fails, the process prints an error message, returns
a non-zero exit value and never enters the time loop; if none fails it returns 0 and runs. -/
theorem C17_exit (cs : List Check) :
    ((∃ c ∈ cs, ∃ k, c.run = .error k) →
      (mainModel cs).exit ≠ 0 ∧ (mainModel cs).message ≠ none ∧ (mainModel cs).loopStarted = false) ∧
    ((∀ c ∈ cs, c.run = .ok ()) → mainModel cs = ⟨0, none, true⟩) ∧
    (∀ k : Kind, exitValue k ≠ 0) := by
  have hexit : ∀ k : Kind, exitValue k ≠ 0 := fun k => by unfold exitValue; split <;> decide
  refine ⟨?_, fun h => by simp [mainModel, (runAll_ok_iff cs).mpr h], hexit⟩
  rintro ⟨c, hc, k, hk⟩
  unfold mainModel
  cases h : runAll cs with
  | ok u => rw [(runAll_ok_iff cs).mp h c hc] at hk; cases hk
  | error k' => exact ⟨hexit k', by simp, rfl⟩

/- non-vacuity: a run with a good attribute and a good box passes; the same run with `dt="1e-5x"` fails
with exit value 1 before the loop. -/
set_option exponentiation.threshold 2000 in
example : mainModel [.attr ⟨[⟨"dt", .double, some (.dblCmp .gt 0)⟩], false⟩ "dt" ['1'], .box 1 [4, 4, 4],
    .compile (nominal 1)] = ⟨0, none, true⟩ := by decide +kernel
set_option exponentiation.threshold 2000 in
example : mainModel [.attr ⟨[⟨"dt", .double, some (.dblCmp .gt 0)⟩], false⟩ "dt" ['1', 'e', '-', '5', 'x'],
    .box 1 [4, 4, 4], .compile (nominal 1)] = ⟨1, some "ERROR: notNumber", false⟩ := by decide +kernel

/-- The conversion sites of `PropertyList::fromXML` (regenerated from property_list.cpp on every run): EVERY call that
stores an INT or DOUBLE attribute - one per branch of the length comparison with `LONG_MAX` - goes through a function whose body
is `strtol`/`strtod` with the end-pointer check.  This is the hypothesis under which `C17_malformed_number` (about the model's
strict scanner) speaks about the code; a branch that converts with `atoi`/`atof` makes it false. -/
theorem C17_conversion_sites_strict :
    (∀ f ∈ Sympler.Gen.Validate.intConversions ++ Sympler.Gen.Validate.doubleConversions,
      f ∈ Sympler.Gen.Validate.strictFunctions) ∧
    Sympler.Gen.Validate.intConversions ≠ [] ∧ Sympler.Gen.Validate.doubleConversions ≠ [] := by decide

/-- Wrongly typed expression results (regenerated from `FunctionCompiler::compile`): an expression whose number of entries (scalar 1,
vector 3, tensor 9) differs from what the module expects - in EITHER direction - is rejected; nothing is truncated silently. -/
theorem C17_result_size_strict :
    ∀ n ∈ [1, 3, 9], ∀ want ∈ [1, 3, 9], Sympler.Gen.Validate.resultSizeRejected n want = decide (n ≠ want) := by decide

