import Sympler.Gen.PairGuardsGen
/-!
# C04 / C10 — every write to a pair partner anywhere in the tree is under that partner's acts-on flag

`Sympler.Gen.PairGuards.partnerWrites` is regenerated on every run by `translate/t_pairguards.py` from ALL files under
source/{include,src}/{force,callable,symbol,integrator,basic,meter,reflector}: every statement that assigns to a field (`v`, `r`,
`force`, `tag…`) of `pair->firstPart()` / `pair->secondPart()` (directly or through a local `Particle*` alias), with the
conditions of all enclosing `if`s.  The acts-on flags of a listed pair are the free flags of its partners (C01), so a write
under the partner's own flag never touches a frozen particle — for EVERY pair module of the tree, not only the modelled ones.

Exempt files (each with its reason; they are reported, not hidden):
* `src/force/connector_basic.cpp` — bonded force: bonded lists are `(true, true)` by construction; both writes go to the force
  ACCUMULATOR (scratch storage, not a quantity of C10's state).
* `src/basic/vl_yao_creator.cpp` — neighbour counters of the Yao Verlet-list creator (bookkeeping of the pair creator itself).
* `src/integrator/integrator_ISPH_const_rho.cpp` — the ISPH integrator extrapolates pressure and normalisations INTO wall
  particles by design (outside the generated scenarios; C10 is not claimed for inputs using it).
* `src/force/f_dpde.cpp` — `FDPDE` cannot be instantiated in the current tree (its `setup()` asks for the attribute
  `force_internal_energy`, which no longer exists); its fixed-noise branch adds the SECOND partner's energy flux to the first
  partner (under `actsOnSecond()`), a copy-paste slip recorded in DESIGN.md.
-/
namespace Sympler.PairGuards
open Sympler.Gen.PairGuards

def exempt : List String :=
  ["src/force/connector_basic.cpp", "src/basic/vl_yao_creator.cpp", "src/integrator/integrator_ISPH_const_rho.cpp", "src/force/f_dpde.cpp"]

/-- Outside the exempt files, every write to a pair partner is guarded by that partner's own acts-on flag. -/
theorem C04_guards_table :
    partnerWrites.all (fun w => exempt.contains w.1 || w.2.2.2.1) = true := by
  -- evaluated with the flag first: only the unguarded writes need the string comparisons with `exempt`
  have h : partnerWrites.all (fun w => w.2.2.2.1 || exempt.contains w.1) = true := by decide +kernel
  exact (congrArg (partnerWrites.all ·) (funext fun w => Bool.or_comm _ _)).trans h

/-- non-vacuity: the table covers the modelled modules and the ones the scenarios cannot reach (DPD, LJ, thermostats) -/
theorem C04_guards_table_covers :
    ["include/force/f_pair_vels.h", "src/force/f_pair_scalar.cpp", "src/force/f_pair_vector.cpp",
      "include/symbol/val_calculator_part/pair_particle_scalar.h", "include/symbol/val_calculator_part/pair_particle_vector.h",
      "src/force/f_dpd.cpp", "include/force/lennard_jones.h", "src/callable/thermostat_peters_iso.cpp",
      "src/callable/thermostat_la.cpp"].all (fun f => partnerWrites.any (fun w => w.1 == f && w.2.2.1) &&
        partnerWrites.any (fun w => w.1 == f && !w.2.2.1)) = true := by decide +kernel


/-- C04 / C07 "only inside the module's own cutoff": no write to a pair partner anywhere in the tree is guarded by a comparison of the
pair distance with the cutoff of the shared neighbour list (which is the maximum over everything registered on the species pair) -/
theorem C07_no_write_guarded_by_list_cutoff : Sympler.Gen.PairGuards.listCutoffGuarded = [] := by decide

end Sympler.PairGuards
