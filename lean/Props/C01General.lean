import Sympler.GridLinksLemmas
import Props.C01Tables
/-!
C01 / C09 — the link lists and the outlet geometry of EVERY grid that `ManagerCell` builds; at the end the instances
`C01_links_complete_unique_222a/_222b/_322` (two cells per direction, where a periodic direction yields TWO links between the same
two cells, in all 8 periodicity patterns; a cutoff that does not divide the box).

`subdivide` is the statement-level model of `ManagerCell::cellSubdivide` + `Cell::establishLink` + `Cell::init`
(`Sympler/Grid.lean`); `linksOKb` says: every cell has exactly one local link, and for every cell and each of the 26 directions
whose neighbour exists (periodic wrap or interior) exactly one link represents it, it sits in exactly one slot, it acts on both
cells, its `cell distance` is `cellDist`, and the outlet table has exactly that neighbour; `GeomOK` is the geometric hypothesis of
the C09 theorems (outlet = the cell whose corners are this cell's corners shifted by one width, wrapped in periodic directions).
The proofs are by a loop invariant over the set of covered (cell, direction) slots (`Sympler/GridLinksInv.lean`).
-/
namespace Sympler.C01
open Sympler Sympler.Grid

/-- for every cutoff, box and periodicity: if the subdivision succeeds, the link lists are complete and free of duplicates -/
theorem C01_links_complete_unique {cutoff : Rat} {box : V3 Rat} {per : V3 Bool} {G : Grid}
    (h : subdivide cutoff (0, 0, 0) box per = some G) : linksOKb G per = true := subdivide_linksOK h

/-- … and the outlet geometry assumed by the C09 theorems holds (positive cutoff) -/
theorem C01_geometry_general {cutoff : Rat} {box : V3 Rat} {per : V3 Bool} {G : Grid} (hc : 0 < cutoff)
    (h : subdivide cutoff (0, 0, 0) box per = some G) : GeomOK G per := subdivide_geomOK_of_cutoff hc h

/-- the static hypotheses of the C09 theorems hold for EVERY grid the code builds from a positive cutoff: the finite check
`staticChecks` can never fail on a successful subdivision -/
theorem C01_static_checks_general {cutoff : Rat} {box : V3 Rat} {per : V3 Bool} (hc : 0 < cutoff) :
    staticChecks cutoff box per = true ↔ (subdivide cutoff (0, 0, 0) box per).isSome = true :=
  staticChecks_iff_subdivide hc

/-- all static hypotheses at once, without any finite check -/
theorem C01_static_hypotheses_general {cutoff : Rat} {box : V3 Rat} {per : V3 Bool} {G : Grid} (hc : 0 < cutoff)
    (h : subdivide cutoff (0, 0, 0) box per = some G) :
    GridOK G ∧ OutSingle G ∧ GeomOK G per ∧ linksOKb G per = true := by
  have hs : staticChecks cutoff box per = true := staticChecks_of_subdivide_cutoff hc h
  obtain ⟨G', hG', h1, h2, h3, h4⟩ := C01_static_checks_sound hs
  rw [h] at hG'
  cases hG'
  exact ⟨h1, h2, h3, h4⟩

/-- the hypothesis on the cutoff cannot be dropped for the geometry (witness from `Sympler/GridLinksLemmas.lean`) -/
theorem C01_geometry_needs_positive_box :
    ∃ G, subdivide 0 (0, 0, 0) (-2, -2, -2) (true, true, true) = some G ∧ ¬ GeomOK G (true, true, true) :=
  geomOK_needs_positive_box

/-- non-vacuity: a 3 x 2 x 4 grid with walls in y -/
example : (subdivide 1 (0, 0, 0) (3, 2, 4) (true, false, true)).isSome = true := by decide +kernel

/-! ### Instances: only the success of the subdivision is evaluated -/

theorem staticChecks_one {box : V3 Rat} {per : V3 Bool} (h : (subdivide 1 (0, 0, 0) box per).isSome = true) :
    staticChecks 1 box per = true := (C01_static_checks_general (by decide)).mpr h

/-- 2×2×2 cells, periodicities ppp, ppw, pwp, pww -/
theorem C01_links_complete_unique_222a :
    staticChecks 1 (2, 2, 2) (true, true, true) = true ∧ staticChecks 1 (2, 2, 2) (true, true, false) = true ∧
    staticChecks 1 (2, 2, 2) (true, false, true) = true ∧ staticChecks 1 (2, 2, 2) (true, false, false) = true :=
  ⟨staticChecks_one (by decide +kernel), staticChecks_one (by decide +kernel), staticChecks_one (by decide +kernel),
    staticChecks_one (by decide +kernel)⟩

/-- 2×2×2 cells, periodicities wpp, wpw, wwp, www -/
theorem C01_links_complete_unique_222b :
    staticChecks 1 (2, 2, 2) (false, true, true) = true ∧ staticChecks 1 (2, 2, 2) (false, true, false) = true ∧
    staticChecks 1 (2, 2, 2) (false, false, true) = true ∧ staticChecks 1 (2, 2, 2) (false, false, false) = true :=
  ⟨staticChecks_one (by decide +kernel), staticChecks_one (by decide +kernel), staticChecks_one (by decide +kernel),
    staticChecks_one (by decide +kernel)⟩

/-- 3×2×2 cells with widths 7/6, 9/8, 1; periodicity pwp -/
theorem C01_links_complete_unique_322 :
    staticChecks 1 (7/2, 9/4, 2) (true, false, true) = true :=
  staticChecks_one (by decide +kernel)

end Sympler.C01
