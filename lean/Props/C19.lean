import Sympler.Bonds
/-!
# C19 — bonded interactions act on exactly the listed bonds, with the current minimum-image separation

The per-component treatment is the GENERATED `Sympler.Gen.Bonds.bondWrapUpdate / bondWrapInit / bondWrapInitWrite`
(from colour_pair.cpp).  Dropping the periodicity guard again (the defect repaired by commit 976f114) makes
`C19_current_nonperiodic` fail.
-/
namespace Sympler.Bonds
open Sympler.Gen.Bonds

/-- A value in `[-L/2, L/2]` has no nearer periodic image. -/
private theorem no_nearer_image {L w : Rat} (hL : 0 < L) (h1 : -(L / 2) ≤ w) (h2 : w ≤ L / 2)
    (n : Int) (hn : n ≠ 0) : L / 2 ≤ w + n * L ∨ w + n * L ≤ -(L / 2) := by
  rcases Int.lt_or_gt_of_ne hn with hneg | hpos
  · right
    have hn1 : (n : Rat) ≤ -1 := by
      simpa using Rat.intCast_le_intCast.mpr (show n ≤ -1 by omega)
    have := Rat.mul_le_mul_of_nonneg_right hn1 (Rat.le_of_lt hL)
    grind
  · left
    have hn1 : (1 : Rat) ≤ n := by
      simpa using Rat.intCast_le_intCast.mpr (show 1 ≤ n by omega)
    have := Rat.mul_le_mul_of_nonneg_right hn1 (Rat.le_of_lt hL)
    grind

/-- **current separation, periodic direction**: for two positions in `[0, L)` (difference in `(-L, L)`), the refreshed
component is `c + k L` with `k ∈ {-1,0,1}`, lies in `[-L/2, L/2]` and no other image is nearer: the minimum image. -/
theorem C19_current_periodic (L c : Rat) (hL : 0 < L) (h1 : -L < c) (h2 : c < L) :
    (∃ k : Int, (k = -1 ∨ k = 0 ∨ k = 1) ∧ bondWrapUpdate true L c = c + k * L) ∧
    (-(L / 2) ≤ bondWrapUpdate true L c ∧ bondWrapUpdate true L c ≤ L / 2) ∧
    (∀ n : Int, n ≠ 0 → L / 2 ≤ bondWrapUpdate true L c + n * L ∨ bondWrapUpdate true L c + n * L ≤ -(L / 2)) := by
  -- the three branches of the wrap: which image it takes, and that this image lies in `[-L/2, L/2]`
  have key : ∃ k : Int, (k = -1 ∨ k = 0 ∨ k = 1) ∧ bondWrapUpdate true L c = c + k * L ∧
      -(L / 2) ≤ bondWrapUpdate true L c ∧ bondWrapUpdate true L c ≤ L / 2 := by
    have e : 1 / 2 * L = L / 2 := by rw [Rat.div_def, Rat.div_def, Rat.one_mul, Rat.mul_comm]
    simp only [bondWrapUpdate, if_true, e]
    by_cases ha : c > L / 2
    · have hr : -(L / 2) ≤ c - L ∧ c - L ≤ L / 2 := by grind
      simp only [if_pos ha, if_neg (Rat.not_lt.2 hr.1)]
      exact ⟨-1, Or.inl rfl, by simp [Rat.sub_eq_add_neg, Rat.intCast_neg, Rat.neg_mul], hr⟩
    · by_cases hb : c < -(L / 2)
      · simp only [if_neg ha, if_pos hb]
        exact ⟨1, Or.inr (Or.inr rfl), by simp, by grind⟩
      · simp only [if_neg ha, if_neg hb]
        exact ⟨0, Or.inr (Or.inl rfl), by simp [Rat.add_zero], Rat.not_lt.1 hb, Rat.not_lt.1 ha⟩
  obtain ⟨k, hk, hw, hr1, hr2⟩ := key
  exact ⟨⟨k, hk, hw⟩, ⟨hr1, hr2⟩, no_nearer_image hL hr1 hr2⟩

/-- **current separation, non-periodic direction**: the plain difference, however long the bond is
(no wrap through a wall) — for the refresh and for both creation paths. -/
theorem C19_current_nonperiodic (L c : Rat) :
    bondWrapUpdate false L c = c ∧ bondWrapInit false L c = c ∧ bondWrapInitWrite false L c = c := by
  simp [bondWrapUpdate, bondWrapInit, bondWrapInitWrite]

/-- creation and refresh treat a component identically (the initial vector is the one the first refresh would give) -/
theorem C19_init_eq_update (p : Bool) (L c : Rat) :
    bondWrapInit p L c = bondWrapUpdate p L c ∧ bondWrapInitWrite p L c = bondWrapUpdate p L c := by
  cases p <;> simp [bondWrapUpdate, bondWrapInit, bondWrapInitWrite]

/-- **exactly the listed bonds, once**: one pass evaluates the pair factor on the bonds of the list, in list order,
each as often as it is listed (a duplicate-free list ⇒ exactly once) and on no other pair -/
theorem C19_once (b : Box) (pos : Nat → V3) (bonds : List Bond) :
    evaluations (refreshList b pos bonds) = bonds ∧ (bonds.Nodup → (evaluations (refreshList b pos bonds)).Nodup) := by
  have h : evaluations (refreshList b pos bonds) = bonds := by
    simp [evaluations, refreshList, List.map_map, Function.comp_def]
  exact ⟨h, fun hn => by rw [h]; exact hn⟩

/-- **current positions**: the vector used for a bond is a function of the CURRENT positions of its two particles and of the
box only: two position maps that agree on the two partners give the same vector (no memory of the previous step, no
dependence on other particles, the cutoff, the cell grid or the pair creator: none of them is an argument) -/
theorem C19_independent (b : Box) (pos pos' : Nat → V3) (bonds : List Bond)
    (h : ∀ bd ∈ bonds, pos bd.first = pos' bd.first ∧ pos bd.second = pos' bd.second) :
    refreshList b pos bonds = refreshList b pos' bonds := by
  simp only [refreshList]
  apply List.map_congr_left
  intro bd hbd
  obtain ⟨h1, h2⟩ := h bd hbd
  simp [h1, h2]

/-- non-vacuity / regression: walled x direction of length 10, particles at x = 1 and x = 9: separation −8 (the old code gave 2);
    periodic y direction of length 8: 1/2 and 15/2 are neighbours across the face: separation 1 -/
example : refreshVec ⟨(10, 8, 8), (false, true, true)⟩ (1, 1/2, 4) (9, 15/2, 4) = (-8, 1, 0) := by decide +kernel

end Sympler.Bonds
