import Sympler.DynLemmas

/-!
# C07 — pair-summed quantities equal the sum over true neighbours, redone each step

Model: `Sympler.Dyn`.  A pair sum (`PairParticleScalar`, `PairParticleVector`) is a `PairMod` with a
symbol as target, executed by `runSymbols` in the round of its stage, after `clearParticleData` has
zeroed every non-persistent attribute of the free particles.
-/
namespace Sympler.Dyn

/-- the sums of `C07_sum` are taken over the CURRENT configuration -/
theorem C07_current_positions (cfg : Config) (hwf : cfg.wf = true) (s : Nat) (st : State) (j : Nat) :
    (stageState cfg s (clearParticleData st)).n = st.n ∧
    ((stageState cfg s (clearParticleData st)).ps j).sameBody (st.ps j) := by
  have h : AgreeOff (fun _ => True) st (stageState cfg s (clearParticleData st)) :=
    ((clearParticleData_agree st).trans
      (AgreeOff.foldl _ (fun st t => runStage cfg t st) (List.range s)
        (fun s t _ => (runStage_agreeW cfg t s).mono (fun _ _ => trivial)) _)).trans
      (partPhase_agree _ false _ (fun _ _ => trivial) _)
  exact ⟨h.n, h.body j⟩

/-- Let `m` be a registered pair sum writing the symbol `name` (`SumOK`: registered once,
only writer of `name`, stage assignment as guaranteed by C06), with a non-persistent attribute
(`hpers`, as `ValCalculatorArbitrary::setup` registers it).  After `clearParticleData` and
`runSymbols` the value of `name` on every FREE particle `i` is the direct sum, over ALL other
particles `b` — free or frozen — of the partner colour whose minimum-image distance to `i` in the
current positions is below the module's OWN cutoff, of the summand: `factor_i ∘ expr` for the pairs
in which `i` is the first particle, `symmetry · factor_j ∘ expr` for those in which it is the second.
Expressions are evaluated on `stageState` = current positions/velocities, symbols of lower stages
already recomputed (`C07_current_positions`). -/
theorem C07_sum (cfg : Config) (m : PairMod) (name : String) (h : SumOK cfg m name) (hc : 0 ≤ m.cutoff)
    (st : State) (i : Nat) (hi : i < st.n) (hf : (st.ps i).frozen = false)
    (hpers : st.pers (st.ps i).colour (.sym name) = false) :
    let S := stageState cfg m.stage (clearParticleData st)
    ((runSymbols cfg (clearParticleData st)).ps i).tag (.sym name)
      = vsum ((List.range S.n).map (fun b =>
          if pairGuard S m.c1 m.c2 i b && inCut cfg m (S.ps i) (S.ps b)
          then m.first (mkEnv cfg.box (S.ps i) (S.ps b)) else 0))
        + vsum ((List.range S.n).map (fun a =>
          if pairGuard S m.c1 m.c2 a i && inCut cfg m (S.ps a) (S.ps i)
          then m.second (mkEnv cfg.box (S.ps a) (S.ps i)) else 0)) := by
  intro S
  have hz : ((clearParticleData st).ps i).tag (.sym name) = 0 := by
    rw [clearParticleData_tag]; simp [hf, hpers, Key.inTag]
  have hfr : ((clearParticleData st).ps i).frozen = false := (clearParticleData_pres st).free hf
  rw [runSymbols_sum cfg m name h (clearParticleData st) i hi hfr, hz, Vec3.zero_add]
  simp only [pairForceOn, pairActive_iff cfg m (Or.inr h.mem) hc]
  rfl

/-- non-vacuity: the pair sum `n` of the example (summand 1, cutoff 3/2) satisfies the hypotheses;
particle 0 has two partners (distances 1/2 and 5/4), and a FROZEN partner counts as well -/
example : SumOK Ex.cfg Ex.cfg.sums.head! "n" ∧ Ex.st.pers 0 (.sym "n") = false ∧
    ((runSymbols Ex.cfg (clearParticleData Ex.st)).ps 0).tag (.sym "n") = ⟨2, 0, 0⟩ ∧
    ((runSymbols Ex.cfg (clearParticleData Ex.stFrozen)).ps 0).tag (.sym "n") = ⟨2, 0, 0⟩ := by
  refine ⟨⟨by decide +kernel, rfl, by decide +kernel, by decide, ?_⟩, by decide, by decide +kernel, by decide +kernel⟩
  intro m' hm' _ n hn
  simp only [Ex.cfg, List.mem_cons, List.not_mem_nil, or_false] at hm'
  subst hm'
  simp [PairMod.reads, Expr.reads] at hn

/-- Nothing is carried over from the previous step: two states that differ only
in the value of the non-persistent attribute `name` on free particles are IDENTICAL after
`clearParticleData` — hence after `runSymbols`, the force evaluation and the rest of the step. -/
theorem C07_memoryless (name : String) (st st' : State) (hn : st.n = st'.n) (hfi : st.forceIdx = st'.forceIdx)
    (hpe : st.pers = st'.pers)
    (hbody : ∀ i, (st.ps i).colour = (st'.ps i).colour ∧ (st.ps i).slot = (st'.ps i).slot ∧
      (st.ps i).frozen = (st'.ps i).frozen ∧ (st.ps i).r = (st'.ps i).r ∧ (st.ps i).v = (st'.ps i).v)
    (htag : ∀ i key, key ≠ .sym name ∨ (st.ps i).frozen = true → (st.ps i).tag key = (st'.ps i).tag key)
    (hnp : ∀ i, st.pers (st.ps i).colour (.sym name) = false) (cfg : Config) :
    clearParticleData st = clearParticleData st' ∧
    runSymbols cfg (clearParticleData st) = runSymbols cfg (clearParticleData st') := by
  have h : clearParticleData st = clearParticleData st' := by
    refine State.ext' hn (funext fun i => ?_) hfi hpe
    obtain ⟨hc, hs, hz, hr, hv⟩ := hbody i
    rw [clearParticleData, clearParticleData, mapFree_ps, mapFree_ps, ← hz, ← hpe]
    by_cases hfz : (st.ps i).frozen = true
    · rw [if_pos hfz, if_pos hfz]
      exact Particle.ext' hc hs hz hr hv (funext fun key => htag i key (Or.inr hfz))
    · rw [if_neg hfz, if_neg hfz]
      refine Particle.ext' hc hs rfl hr hv (funext fun key => ?_)
      show (if key.inTag && !st.pers (st.ps i).colour key then 0 else (st.ps i).tag key)
        = (if key.inTag && !st.pers (st'.ps i).colour key then 0 else (st'.ps i).tag key)
      rw [← hc]
      by_cases hk : key = .sym name
      · subst hk; simp [hnp i, Key.inTag]
      · rw [htag i key (Or.inl hk)]
  exact ⟨h, by rw [h]⟩

/-- non-vacuity: overwrite `n` of the free particles of the example with garbage: same result -/
example : let dirty : State := { Ex.st with ps := fun i => (Ex.st.ps i).setTag (.sym "n") ⟨42, 0, 0⟩ }
    ((dirty.ps 0).tag (.sym "n") ≠ (Ex.st.ps 0).tag (.sym "n")) ∧
    ((runSymbols Ex.cfg (clearParticleData dirty)).ps 0).tag (.sym "n") = ⟨2, 0, 0⟩ := by
  decide +kernel

/-- A partner at or beyond the quantity's own cutoff contributes nothing, even if the neighbour list of the
colour pair reaches further because another module has a larger cutoff (the corresponding terms of `C07_sum`
are zero).  The kernel is the one of the forces: this is `C04_own_cutoff` for the symbol buffer, `pairOp_outside`. -/
theorem C07_own_cutoff (cfg : Config) (m : PairMod) (a b : Nat) (st : State)
    (hout : inCut cfg m (st.ps a) (st.ps b) = false) :
    pairOp cfg false m a b st = st ∧ ∀ i key, pairDelta cfg false m st a b i key = 0 :=
  pairOp_outside cfg false m a b st hout

/-- non-vacuity: give the pair sum the cutoff 1 and the force the cutoff 3/2: the pair (0,2) at
distance 5/4 is in the list, the force acts on it, the sum does not count it -/
example : let cfg' : Config := { Ex.cfg with
      sums := [⟨0, 0, 0, .sym "n", 1, 1, .num 1, .num 1, .num 1⟩],
      pairForces := [⟨0, 0, 0, .force .vel, 3/2, -1, .rij, .vec ⟨1, 1, 1⟩, .vec ⟨1, 1, 1⟩⟩] }
    inList cfg' Ex.st 0 0 0 2 = true ∧
    pairActive cfg' cfg'.pairForces.head! Ex.st 0 2 = true ∧
    ((runSymbols cfg' (clearParticleData Ex.st)).ps 0).tag (.sym "n") = ⟨1, 0, 0⟩ := by
  decide +kernel

end Sympler.Dyn
