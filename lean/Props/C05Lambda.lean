import Sympler.IntegLambda
import Sympler.Gen.DynGen
/-!
C05 — the predictor-corrector integrators of user quantities advance every degree of freedom by exactly one correct step.

About `Sympler/IntegLambda.lean`, whose kernels are REGENERATED from integrator_{scalar,vector,tensor}_lambda.cpp on every run
(`translate/t_integlambda.py`); every proof unfolds those kernels, so a changed factor, sign or force buffer breaks it.
-/
namespace Sympler.IntegLambda
open Sympler.Gen.IntegLambda

/-- the three integrators run the same predictor `dt·λ·F` -/
theorem step1_eq (k : Kind) (dt lam f : Rat) : step1 k dt lam f = dt * lam * f := by cases k <;> rfl

/-- … and the same corrector `dt·(½·F_new + (½−λ)·F_old)` -/
theorem step2_eq (k : Kind) (dt lam f fo : Rat) :
    step2 k dt (lambdaDiff k lam) f fo = dt * (1 / 2 * f + (1 / 2 - lam) * fo) := by cases k <;> rfl

/-- the value the forces are evaluated at: `x + λ·dt·F` -/
theorem C05L_predictor (k : Kind) (dt lam : Rat) (s : St) : predicted k dt lam s = s.x + lam * dt * s.f := by
  rw [predicted, step1_eq, Rat.mul_comm dt]

/-- **one step is the trapezoidal rule, for every λ**: predictor and corrector together add `dt/2·(F_old + F_new)`, where `F_new`
is the force evaluated at the predicted value; λ only moves the point of evaluation -/
theorem C05L_step_trapezoid (k : Kind) (dt lam : Rat) (g : Rat → Rat) (s : St) :
    (step k dt lam g s).x = s.x + dt / 2 * (s.f + g (predicted k dt lam s)) ∧
    (step k dt lam g s).f = g (predicted k dt lam s) := by
  refine ⟨?_, rfl⟩
  simp only [step, step2_eq]
  rw [predicted, step1_eq]
  grind

/-- the start leaves the value alone and fills the force buffer with the force at it (after a step the buffer holds the force
at the predicted value: `(C05L_step_trapezoid …).2`) -/
theorem C05L_init (g : Rat → Rat) (x0 : Rat) : (init g x0).x = x0 ∧ (init g x0).f = g x0 := ⟨rfl, rfl⟩

/-- a constant rate `R` is integrated exactly, for every λ, step size and number of steps -/
theorem C05L_const_rate (k : Kind) (dt lam R x0 : Rat) (n i : Nat) :
    (run k dt lam (fun _ _ => R) n i (init (fun _ => R) x0)).x = x0 + n * dt * R ∧
    (run k dt lam (fun _ _ => R) n i (init (fun _ => R) x0)).f = R := by
  suffices h : ∀ (n i : Nat) (s : St), s.f = R →
      (run k dt lam (fun _ _ => R) n i s).x = s.x + n * dt * R ∧ (run k dt lam (fun _ _ => R) n i s).f = R by
    exact h n i _ rfl
  intro n
  induction n with
  | zero => intro i s hs; simp [run, hs]; grind
  | succ n ih =>
    intro i s hs
    have h1 := C05L_step_trapezoid k dt lam (fun _ => R) s
    have h2 := ih (i + 1) (step k dt lam (fun _ => R) s) h1.2
    simp only [run]
    constructor
    · rw [h2.1, h1.1, hs]; push_cast; grind
    · exact h2.2

/-- … in particular the result does not depend on λ -/
theorem C05L_const_rate_lambda_independent (k : Kind) (dt lam lam' R x0 : Rat) (n : Nat) :
    (run k dt lam (fun _ _ => R) n 0 (init (fun _ => R) x0)).x = (run k dt lam' (fun _ _ => R) n 0 (init (fun _ => R) x0)).x := by
  rw [(C05L_const_rate k dt lam R x0 n 0).1, (C05L_const_rate k dt lam' R x0 n 0).1]

/-- the three integrators use the same kernel for every component -/
theorem C05L_kinds_agree (k : Kind) (dt lam f fo : Rat) :
    step1 k dt lam f = step1 .scalar dt lam f ∧ step2 k dt (lambdaDiff k lam) f fo = step2 .scalar dt (lambdaDiff .scalar lam) f fo := by
  cases k <;> exact ⟨rfl, rfl⟩

/-- with λ = 1/2 the corrector does not read the old buffer -/
theorem C05L_half (k : Kind) (dt f fo fo' : Rat) : step2 k dt (lambdaDiff k (1/2)) f fo = step2 k dt (lambdaDiff k (1/2)) f fo' := by
  rw [step2_eq, step2_eq, Rat.sub_self, Rat.zero_mul, Rat.zero_mul]

/-- `IntegratorTensor` (explicit Euler) adds `dt·F` per component, like `IntegratorScalar` / `IntegratorVector` of the model `Dyn` -/
theorem C05L_tensor_euler (dt lam f : Rat) :
    eulerTensorIncr dt lam f = Sympler.Gen.Dyn.eulerScalarIncr dt f ∧ eulerTensorIncr dt lam f = dt * f := ⟨rfl, rfl⟩

/-- non-vacuity / worked example: g(x) = -x, dt = 1/4, λ = 3/4, x0 = 1: first step -/
example : (step .scalar (1/4) (3/4) (fun x => -x) (init (fun x => -x) 1)).x = 99/128 := by
  rw [(C05L_step_trapezoid _ _ _ _ _).1, C05L_predictor]; simp [init]; grind

end Sympler.IntegLambda
