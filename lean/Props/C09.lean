import Sympler.CellsPosLemmas
import Sympler.GridLinksLemmas

/-!
# C09 — cell bookkeeping and periodic wrapping stay consistent with positions

Theorems over the state machine of `Sympler/Cells.lean` (`assignParticlesToCells`, then any list of
`Op.move` / `Op.commit`), for ALL histories, all particle sets, all colours, and every grid `G` that
satisfies the static hypothesis `Sympler.Grid.GridOK G` (each cell notifies each link exactly once per end
and nothing else; outlets are existing cells).  `C09_gridOK` (from `Sympler/GridBuildLemmas.lean`) proves
`GridOK` for EVERY grid `cellSubdivide` builds — any box, cutoff, periodicity — so the theorems below hold
unconditionally for the model's grids.  Two further static facts, `OutSingle` (at most one outlet per direction;
only used to exclude the model's refusal `multiOutlet` in `C09_errors`) and `GeomOK` (outlet geometry; hypothesis
of `C09_wrap_exact` and `C09_count_conserved`), hold for every grid built with a positive cutoff
(`C01_static_hypotheses_general` in `Props/C01General.lean`, proved in `Sympler/GridLinks*.lean`); the executable
`gridOKb` and the decidable `GeomOK` are also evaluated natively for every grid of the correspondence runs (the
driver prints `gridok`).

The invariant `Sympler.Cells.Inv S U UF s` (`Sympler/CellsLemmas.lean`) for the universe `U` of free and
`UF` of frozen particles `(colour, slot)`:
* (1) `occ` / `focc`: every free particle that was not erased is registered exactly once — in one free
  list or (mid-step) one injection buffer; every frozen particle in exactly one frozen list;
  `supp`: nothing is registered outside the existing cells / colours;
* (2) `book.npart`: `m_n_particles = Σ_colours |free| + |frozen|` per cell;
* (3) `book.act`: the active-cell list is a well-linked doubly linked list (`DLL.Repr`: `first`, `next`,
  `prev` chain, nothing else linked, `m_n_active_cells` = length, no duplicates) holding exactly the cells
  with `m_n_particles > 0`;
* (4) `ActInv.cnt`, `LinkInv`: each link counter = number of its active end cells (local link: 0 or 2), the
  active-link list is well linked and holds exactly the links with counter 2.
Core Lean only.
-/
namespace Sympler.C09
open Sympler Sympler.Grid Sympler.Cells Sympler.Gen.CellTables

/-- the static hypothesis of the theorems below holds for every grid that
`ManagerCell::cellSubdivide` builds (all cutoffs, boxes, all 8 periodicity patterns, any number ≥ 2 of
cells per direction, including exactly two cells in a periodic direction). -/
theorem C09_gridOK {cutoff : Rat} {c1 c2 : V3 Rat} {per : V3 Bool} {G : Grid.Grid}
    (h : subdivide cutoff c1 c2 per = some G) : GridOK G :=
  subdivide_gridOK h

/-- the `(colour, slot)` keys of a particle list -/
def keys (ps : List (Nat × Nat × V3 Rat)) : List (Nat × Nat) := ps.map fun x => (x.1, x.2.1)

/-- `Phase::assignParticlesToCells` establishes the invariant (and leaves all
injection buffers empty, nothing erased), for every set of free and frozen particles with distinct slots
per colour and colours `< nCol`, whenever it does not reject the input (`noCell`). -/
theorem C09_inv_init {S : Sys} (hG : GridOK S.G) {free frozen : List (Nat × Nat × V3 Rat)}
    (hfn : (keys free).Nodup) (hzn : (keys frozen).Nodup)
    (hfc : ∀ x ∈ free, x.1 < S.nCol) (hzc : ∀ x ∈ frozen, x.1 < S.nCol) {s : St}
    (e : assignParticlesToCells S free frozen = .ok s) :
    Inv S (keys free) (keys frozen) s ∧ (∀ c k, s.injAt c k = []) ∧ s.erased = [] :=
  have h := assignParticlesToCells_spec hG hfn hzn hfc hzc e
  ⟨h.1, h.2.1, h.2.2.1⟩

/-- every operation (`move` with ANY list of new positions, `commit`) preserves the
invariant whenever it returns a state. -/
theorem C09_inv_step {S : Sys} (hG : GridOK S.G) {U UF : List (Nat × Nat)} {s s' : St} (op : Op)
    (h : Inv S U UF s) (e : applyOp S s op = .ok s') : Inv S U UF s' := by
  cases op with
  | move k ms => exact sweep_inv hG (setPositions_inv k ms h) e
  | commit =>
    obtain ⟨s2, e2, inv2, _⟩ := commitAll_inv hG h
    have e' : commitAll S s = .ok s' := e
    rw [e2] at e'
    exact (Except.ok.inj e') ▸ inv2

/-- the invariant holds in every state reachable from the initial assignment
by any history of operations. -/
theorem C09_inv_reachable {S : Sys} (hG : GridOK S.G) {free frozen : List (Nat × Nat × V3 Rat)}
    (hfn : (keys free).Nodup) (hzn : (keys frozen).Nodup)
    (hfc : ∀ x ∈ free, x.1 < S.nCol) (hzc : ∀ x ∈ frozen, x.1 < S.nCol) {s0 : St}
    (e0 : assignParticlesToCells S free frozen = .ok s0) (ops : List Op) {s : St}
    (e : runOps S ops s0 = .ok s) : Inv S (keys free) (keys frozen) s := by
  have h0 := (C09_inv_init hG hfn hzn hfc hzc e0).1
  clear e0
  induction ops generalizing s0 with
  | nil => exact (Except.ok.inj e) ▸ h0
  | cons op ops ih =>
    simp only [runOps] at e
    cases e1 : applyOp S s0 op with
    | error err => rw [e1] at e; simp at e
    | ok s1 =>
      rw [e1] at e
      exact ih e (C09_inv_step hG op h0 e1)

/-- the sweep `i = first; while (i) { next = i->next; body(i); i = next; }`
over the intrusive active-cell list equals the plain loop over the list `L` of cells that were active when
it started: every such cell is visited exactly once, in list order, no other cell is visited, and the
model's bound on the number of iterations is never hit — although the body removes the current cell from
the list being iterated whenever its last particle leaves. -/
theorem C09_iteration_visits_all {S : Sys} (hG : GridOK S.G) {U UF : List (Nat × Nat)} (k : Nat) {s : St}
    (h : Inv S U UF s) : sweep S k s = sweepList S k s.act.cl.toList s := by
  obtain ⟨L, hL, _⟩ := h.book.act
  rw [DLL.repr_toList hL.cl]
  exact sweep_eq_sweepList hG k h hL.cl

/-- a cell lists at least one particle (free or frozen) -/
def Occupied (S : Sys) (s : St) (c : Nat) : Prop :=
  ∃ k, k < S.nCol ∧ (s.freeAt c k ≠ [] ∨ s.frozenAt c k ≠ [])

/-- (the hypothesis the C01 theorem consumes) in every state satisfying the
invariant: the active-cell list (walked from `m_first_cell`) has no duplicates, `m_n_active_cells` is its
length, and it contains exactly the existing cells that list a particle; the active-link list has no
duplicates, `m_n_active_links` is its length, and it contains exactly the existing links whose two end
cells both list a particle (for a local link: whose cell lists a particle). -/
theorem C09_occupied_exact {S : Sys} {U UF : List (Nat × Nat)} {s : St} (h : Inv S U UF s) :
    (s.act.cl.toList.Nodup ∧ s.act.cl.count = s.act.cl.toList.length ∧
      ∀ c, c ∈ s.act.cl.toList ↔ c < S.nCells ∧ Occupied S s c) ∧
    (s.act.ll.toList.Nodup ∧ s.act.ll.count = s.act.ll.toList.length ∧
      ∀ l, l ∈ s.act.ll.toList ↔ l < S.G.links.size ∧
        Occupied S s (S.G.links.getD l default).first ∧ Occupied S s (S.G.links.getD l default).second) := by
  obtain ⟨L, hL, hiff⟩ := h.book.act
  obtain ⟨LL, hLL⟩ := hL.links
  have hocc : ∀ c, c ∈ L ↔ Occupied S s c := by
    intro c
    rw [hiff c, h.book.npart c]
    unfold cellCount Occupied
    rw [sum_pos_iff]
    constructor
    · rintro ⟨k, hk, hp⟩
      refine ⟨k, hk, ?_⟩
      by_cases h1 : s.freeAt c k = []
      · right; intro h2; rw [h1, h2] at hp; simp at hp
      · exact Or.inl h1
    · rintro ⟨k, hk, hp⟩
      refine ⟨k, hk, ?_⟩
      rcases hp with hp | hp
      · have := List.length_pos_iff.mpr hp; omega
      · have := List.length_pos_iff.mpr hp; omega
  rw [DLL.repr_toList hL.cl, DLL.repr_toList hLL.ll]
  refine ⟨⟨hL.cl.nodup, hL.cl.count, ?_⟩, ⟨hLL.ll.nodup, hLL.ll.count, ?_⟩⟩
  · intro c
    constructor
    · intro hc; exact ⟨hL.lt c hc, (hocc c).mp hc⟩
    · intro hc; exact (hocc c).mpr hc.2
  · intro l
    rw [hLL.iff l, hL.cnt l, ← hocc, ← hocc]
    unfold activeEnds
    generalize (S.G.links.getD l default).first = f
    generalize (S.G.links.getD l default).second = g
    by_cases hl : l < S.G.links.size
    · simp only [hl, if_true, true_and]
      by_cases h1 : f ∈ L <;> by_cases h3 : g ∈ L <;> simp [h1, h3]
    · simp [hl]

/-- from a state satisfying the invariant an operation can only fail with
`PARTICLEFLEWTOOFAR` (which the real code raises too) or, on a grid with several outlets in one direction
(`¬ OutSingle`, never built by `cellSubdivide`), the model's refusal `multiOutlet`: no `abort()` from a link
counter leaving `[0, 2]`, no iteration bound hit. -/
theorem C09_errors {S : Sys} (hG : GridOK S.G) {U UF : List (Nat × Nat)} {s : St} (h : Inv S U UF s)
    (op : Op) {e : Err} (he : applyOp S s op = .error e) :
    (∃ k p, e = .flewTooFar k p) ∨ (e = .multiOutlet ∧ ¬ OutSingle S.G) :=
  applyOp_err hG h op he

/-- `moveColour` (one integrator's `integrateStep1`) is `Op.move` followed by `Op.commit`: the histories of `runSteps`
(`C09_pos_reachable`) are histories of `runOps` (`C09_inv_reachable`) -/
theorem moveColour_eq_ops (S : Sys) (k : Nat) (ms : List (Nat × V3 Rat)) (s : St) :
    moveColour S k ms s = runOps S [.move k ms, .commit] s := by
  unfold moveColour invalidatePositions
  simp only [runOps, applyOp]
  cases sweep S k (setPositions k ms s) with
  | error e => rfl
  | ok s1 =>
    simp only
    cases commitAll S s1 <;> rfl

/-- (5) after `assignParticlesToCells` every registered particle (free, frozen) lies
in its cell in the sense of `isInsideEps(·, g_geom_eps)`; with `eps = 0` this is exact containment. -/
theorem C09_pos_init {S : Sys} (hG : GridOK S.G) {free frozen : List (Nat × Nat × V3 Rat)}
    (hfn : (keys free).Nodup) (hzn : (keys frozen).Nodup)
    (hfc : ∀ x ∈ free, x.1 < S.nCol) (hzc : ∀ x ∈ frozen, x.1 < S.nCol) {s : St}
    (e : assignParticlesToCells S free frozen = .ok s) : PosOK S s :=
  (assignParticlesToCells_spec hG hfn hzn hfc hzc e).2.2.2

/-- (5) one `integrateStep1` (ANY new positions for the free particles of one colour,
sweep, commit) re-establishes: every registered particle lies in its cell, all injection buffers are empty. -/
theorem C09_pos_step {S : Sys} (hG : GridOK S.G) (he : 0 ≤ S.eps) {U UF : List (Nat × Nat)} {k : Nat}
    {ms : List (Nat × V3 Rat)} {s s' : St} (h : Inv S U UF s) (hp : PosOK S s)
    (hbuf : ∀ c k', s.injAt c k' = []) (e : moveColour S k ms s = .ok s') :
    Inv S U UF s' ∧ PosOK S s' ∧ ∀ c k', s'.injAt c k' = [] :=
  moveColour_pos hG he h hp hbuf e

/-- (5) for all histories of `integrateStep1`s from the initial assignment:
invariant (1)–(4), every particle's position in its cell, buffers empty. -/
theorem C09_pos_reachable {S : Sys} (hG : GridOK S.G) (he : 0 ≤ S.eps)
    {free frozen : List (Nat × Nat × V3 Rat)} (hfn : (keys free).Nodup) (hzn : (keys frozen).Nodup)
    (hfc : ∀ x ∈ free, x.1 < S.nCol) (hzc : ∀ x ∈ frozen, x.1 < S.nCol) {s0 : St}
    (e0 : assignParticlesToCells S free frozen = .ok s0) (steps : List (Nat × List (Nat × V3 Rat))) {s : St}
    (e : runSteps S steps s0 = .ok s) :
    Inv S (keys free) (keys frozen) s ∧ PosOK S s ∧ ∀ c k, s.injAt c k = [] := by
  obtain ⟨h0, b0, -⟩ := C09_inv_init hG hfn hzn hfc hzc e0
  have p0 := C09_pos_init hG hfn hzn hfc hzc e0
  clear e0
  induction steps generalizing s0 with
  | nil => exact (Except.ok.inj e) ▸ ⟨h0, p0, b0⟩
  | cons st steps ih =>
    obtain ⟨k, ms⟩ := st
    simp only [runSteps] at e
    cases e1 : moveColour S k ms s0 with
    | error err => rw [e1] at e; simp at e
    | ok s1 =>
      rw [e1] at e
      obtain ⟨h1, p1, b1⟩ := C09_pos_step hG he h0 p0 b0 e1
      exact ih e h1 b1 p1

/-- when `checkNewPosition` hands the particle `(k, p)` of cell `c` over to the outlet
cell `t` (outcome `moved`), its new position `r'` relates to the integrated position `r` per direction by
`WrapComp`: `r` beyond the upper box face ⇒ the direction is periodic and `r' = r − L`; `r` below the lower
box face ⇒ periodic and `r' = r + L`; `r` inside the box extent ⇒ `r' = r` — so faces, edges and corners of
the periodic box are handled direction by direction.  Nothing else of the particle changes: it keeps its
colour and slot (the C++ hands over the same `Particle*`; velocity, forces, tag are not touched by
`checkNewPosition`), and every other particle keeps its position (`CheckOutcome.posAt_ne`). -/
theorem C09_wrap_exact {S : Sys} {per : V3 Bool} (hGeo : GeomOK S.G per) (he : 0 ≤ S.eps)
    {U UF : List (Nat × Nat)} {s s' : St} {c k p : Nat} (h : Inv S U UF s) (hp : p ∈ s.freeAt c k)
    (out : CheckOutcome S s s' c k p) :
    (s' = s) ∨ (s'.erased = s.erased ++ [(k, p)]) ∨
    (∃ t, p ∈ s'.injAt t k ∧
      WrapComp per.1 S.G.c1.1 S.G.c2.1 (s.posAt k p).1 (s'.posAt k p).1 ∧
      WrapComp per.2.1 S.G.c1.2.1 S.G.c2.2.1 (s.posAt k p).2.1 (s'.posAt k p).2.1 ∧
      WrapComp per.2.2 S.G.c1.2.2 S.G.c2.2.2 (s.posAt k p).2.2 (s'.posAt k p).2.2 ∧
      ∀ k' p', ¬ (k' = k ∧ p' = p) → s'.posAt k' p' = s.posAt k' p') := by
  have hc := (h.registered (Or.inl hp)).1
  have hne := fun k' p' => out.posAt_ne (k' := k') (p' := p')
  cases out with
  | stay hs _ => exact Or.inl hs
  | erased hfree hinj hfrozen hpos hfpos herased => exact Or.inr (Or.inl herased)
  | moved t n ht hn hout outside hfree hinj hfrozen hpos hfpos herased inside =>
    right; right
    have hq : s'.posAt k p = wrapPos (S.G.cells.getD c default) (S.G.cells.getD t default) n (s.posAt k p) := by
      simp only [St.posAt, hpos, get_setAt, and_self, if_true]
    rw [hq]
    obtain ⟨c1, c2, c3⟩ := wrapPos_exact hGeo he hc hn hout outside inside
    refine ⟨t, ?_, c1, c2, c3, fun k' p' hh => hne k' p' hh⟩
    simp [St.injAt, hinj, get_setAt]

/-- in a periodic or wall-closed box the particle number is conserved: if
after integration every free particle of the moved colour is inside the box in the NON-periodic directions
(what the walls guarantee; no condition in periodic directions), then the sweep reaches no `erase` branch
(`erased` is unchanged) and every particle stays registered exactly as often as before (`occ`), whatever
the displacement; a displacement of more than a cell can only stop the step with `PARTICLEFLEWTOOFAR`. -/
theorem C09_count_conserved {S : Sys} {per : V3 Bool} (hG : GridOK S.G) (hGeo : GeomOK S.G per)
    (he : 0 ≤ S.eps) {U UF : List (Nat × Nat)} {k : Nat} {ms : List (Nat × V3 Rat)} {s s' : St}
    (h : Inv S U UF s) (hw : ∀ q, InWalls S.G per ((setPositions k ms s).posAt k q))
    (e : applyOp S s (.move k ms) = .ok s') :
    s'.erased = s.erased ∧ ∀ k' p', occ S s' k' p' = occ S s k' p' := by
  have h0 := setPositions_inv k ms h
  have e' : sweep S k (setPositions k ms s) = .ok s' := e
  obtain ⟨r1, _⟩ := sweep_no_erase hG hGeo he h0 hw e'
  have er0 : (setPositions k ms s).erased = s.erased := (setPositions_frame k ms s).2.2.2.2.2.2.1
  have inv' := sweep_inv hG h0 e'
  refine ⟨r1.trans er0, ?_⟩
  intro k' p'
  rw [inv'.occ k' p', h.occ k' p', r1, er0]

/-! ## non-vacuity -/

/-- a 2×2×2 grid (box 2×2×2, cutoff 1), periodic in x and y, walls in z -/
def exGrid : Option Grid.Grid := subdivide 1 (0, 0, 0) (2, 2, 2) (true, true, false)

theorem exGrid_isSome : exGrid.isSome = true := by decide +kernel

theorem exGrid_eq : exGrid = some (exGrid.get exGrid_isSome) := (Option.some_get _).symm

/-- the grid exists, satisfies `GridOK`, two free particles of colour 0 and one frozen of colour 1 are
accepted, and a history with a periodic crossing and a cell that is emptied runs without error -/
example : (match exGrid with
    | some G =>
      gridOKb G &&
      (match assignParticlesToCells { G := G, nCol := 2, eps := 0 }
          [(0, 0, (1/2, 1/2, 1/2)), (0, 1, (3/2, 1/2, 1/2))] [(1, 0, (1/2, 3/2, 1/2))] with
        | .ok s0 =>
          (match runOps { G := G, nCol := 2, eps := 0 }
              [.move 0 [(0, (-1/4, 1/2, 1/2)), (1, (3/2, 1/2, 1/2))], .commit] s0 with
            | .ok s => s.act.cl.toList == [1, 2] && s.posAt 0 0 == (7/4, 1/2, 1/2)
            | .error _ => false)
        | .error _ => false)
    | none => false) = true := by
  -- `gridOKb` holds for every grid `subdivide` returns; only the history is evaluated
  rw [exGrid_eq]
  exact (Bool.and_eq_true _ _).mpr
    ⟨gridOKb_complete (subdivide_gridOK exGrid_eq) (linksSpec_outSingle (subdivide_linksSpec exGrid_eq)),
      by decide +kernel⟩

/-- the geometric hypothesis of `C09_wrap_exact` / `C09_count_conserved` holds for that grid -/
example : (match exGrid with
    | some G => decide (GeomOK G (true, true, false))
    | none => false) = true := by
  rw [exGrid_eq]
  exact decide_eq_true (subdivide_geomOK_of_cutoff (by decide) exGrid_eq)

end Sympler.C09
