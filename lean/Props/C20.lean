import Sympler.Threads
import Sympler.ThreadsLemmas
/-!
# C20 — the OpenMP build gives the same physics for every thread count   (PARTIAL by design)

Model: `Sympler/Threads.lean` (the C++ facts it mirrors, with file:line, are listed in its header).
What is proved (exact arithmetic, `Rat`): for every thread count `T ≥ 1`, every valid activation / deactivation history
of the cell links, every interleaving of the threads' atomic `+=` steps, every merge table:
the per-thread pair lists partition the serial pair list (`C20_partition*`), the copies after the parallel loop do not
depend on the interleaving (`C20_interleaving`; for ANY binary operation — e.g. a rounding addition — as long as each
thread keeps its own order, `C20_interleaving_order`), the serial merge delivers exactly the serial sums and leaves all
copies zero (`C20_merge`), also over a sequence of stages that reuse the same copy slots (`C20_steps`), and so the
result equals the serial build's and is the same for all `T` (`C20_equal`, `C20_thread_count_independent`).

ASSUMED, not proved (run-time facts of the C++; this is why C20 is PARTIAL):
* data-race freedom: during the parallel loop thread `t` writes ONLY cells `(t, ·, ·)` of the copy vectors (and its own
  pair list / pair tags) and reads nothing that another thread writes; each `+=` on a cell is not torn.  The model has
  no shared scratch at all.  The real code does write shared state inside the parallel loops in these places: the
  shared RNG of `FDPD`/`FDPDE`/`PairRand*`, `cpsFinished` (controller.cpp:955/1243), `double size`
  (verlet_creator.cpp:365).
* the merge is serial and starts after the parallel loop has ended (controller.cpp:323-335, 635-647, 963-981).
* every contribution is `admissible`: its thread exists and the merge loops contain an entry for its cell.  The
  hypothesis is load-bearing — see `C20_unmerged_leak_witness`; the real code violates it in `Controller::runSymbols_0`,
  which merges `valCalculatorParts(stage)` (controller.cpp:1258) although the threads ran
  `valCalculatorParts_0(stage)` (pairdist.cpp:254-258).
* the layout: the real slot `destOf cells p s` that copy slot `s` is merged into is the slot the serial build adds
  to directly (`FPairVels::setForceSlots` f_pair_vels.cpp:134-174, `Simulation::setupCopyVectors` simulation.cpp:127-282).
* floating point: `+` on `double` is not associative, so "equal" here means "equal up to summation order"; in the
  exact regime used by the correspondence runs (dyadic inputs) it is bit-for-bit.
-/
namespace Sympler.Threads

/-! ## partition -/

/-- For every thread count `T`, every list `l` and every assignment `a` with `a x < T`: the concatenation over
    `t < T` of the sub-lists owned by `t` is a permutation of `l`.  (`T ≥ 1` is not needed: for `T = 0` the hypothesis forces `l = []`.) -/
theorem C20_partition {α : Type} (T : Nat) (l : List α) (a : α → Nat) (h : ∀ x ∈ l, a x < T) :
    ((List.range T).flatMap fun t => l.filter (fun x => a x == t)).Perm l := by
  induction T generalizing l with
  | zero =>
    cases l with
    | nil => exact .nil
    | cons x _ => exact absurd (h x List.mem_cons_self) (Nat.not_lt_zero _)
  | succ T ih =>
    rw [List.range_succ, List.flatMap_append, List.flatMap_singleton]
    -- the threads below `T` see exactly the elements with `a x ≠ T`
    have hlow : ((List.range T).flatMap fun t => l.filter (fun x => a x == t))
        = (List.range T).flatMap fun t => (l.filter (fun x => !(a x == T))).filter (fun x => a x == t) :=
      flatMap_congr' _ _ _ fun t ht => by
        rw [List.filter_filter]
        refine List.filter_congr fun x _ => ?_
        by_cases hx : a x = t
        · simp [hx, Nat.ne_of_lt (List.mem_range.mp ht)]
        · simp [hx]
    have ih := ih (l.filter (fun x => !(a x == T))) fun x hx => by
      have hx' := List.mem_filter.mp hx
      exact Nat.lt_of_le_of_ne (Nat.le_of_lt_succ (h x hx'.1)) (by simpa using hx'.2)
    rw [hlow]
    exact ((ih.append (.refl _)).trans List.perm_append_comm).trans
      (List.filter_append_perm (fun x => a x == T) l)

/-- the real rule is round robin: after `n` activations the counter is `(c + n) mod T`; the `i`-th activated link gets `(c + i) mod T` -/
theorem C20_round_robin (T c n : Nat) (h : c < T) : counterAfter T c n = (c + n) % T := by
  induction n generalizing c with
  | zero => exact (Nat.mod_eq_of_lt h).symm
  | succ n ih =>
    rw [counterAfter, ih _ (nextCounter_lt h), nextCounter_eq_mod h, Nat.mod_add_mod, Nat.add_right_comm]
    rfl

/-- **the model's assignment**: after ANY valid history of activations and deactivations (the counter is never moved back, so the
    assignment is round robin only over the activation order) every per-thread link list is the serial list restricted to the
    links owned by that thread, in the same order; owners are `< T`; threads `≥ T` own nothing. -/
theorem C20_assignment (T : Nat) (hT : 1 ≤ T) (ops : List LinkOp) (hv : validOps [] ops = true) :
    let m := Mgr.init.run T ops
    let s := serialRun [] ops
    (∀ t, m.firstLink t = s.filter (fun l => m.mThread l == t)) ∧ (∀ l ∈ s, m.mThread l < T) ∧ m.counter < T := by
  have h := Inv.run ops _ _ hv (Inv.init hT)
  exact ⟨h.lists, h.thread_lt, h.counter_lt⟩

/-- `C20_partition` specialised to the links of the model -/
theorem C20_partition_links (T : Nat) (hT : 1 ≤ T) (ops : List LinkOp) (hv : validOps [] ops = true) :
    ((List.range T).flatMap (Mgr.init.run T ops).firstLink).Perm (serialRun [] ops) := by
  obtain ⟨h1, h2, _⟩ := C20_assignment T hT ops hv
  have := C20_partition T (serialRun [] ops) (Mgr.init.run T ops).mThread h2
  rwa [flatMap_congr' _ _ _ (fun t _ => (h1 t).symm)] at this

/-- `C20_partition` for the pair lists: the union of `freePairs()[t]`, `t < T`, is a permutation of the serial pair list -/
theorem C20_partition_pairs {π : Type} (T : Nat) (hT : 1 ≤ T) (ops : List LinkOp) (hv : validOps [] ops = true)
    (gen : Nat → List π) :
    ((List.range T).flatMap (pairList gen (Mgr.init.run T ops))).Perm (serialPairList gen (serialRun [] ops)) := by
  have h := (C20_partition_links T hT ops hv).flatMap_right gen
  rwa [List.flatMap_assoc] at h

/-! ## interleavings -/

/-- Strong form: ANY permutation of the sequence of atomic steps gives the same copies. -/
theorem C20_interleaving (c : Copies) (ks ks' : List Contrib) (h : ks.Perm ks') :
    accumulate c ks = accumulate c ks' :=
  h.foldl_eq' (fun x _ y _ z => step_comm z x y) c

/-- Steps of different threads touch disjoint cells, so for ANY update operation `op` (exact `+`,
    a rounding `+`, …) two step sequences with the same per-thread sub-sequences give the same copies. -/
theorem C20_interleaving_order (op : Rat → Rat → Rat) (c : Copies) (ks ks' : List Contrib)
    (h : ∀ t, ks.filter (fun k => k.thread == t) = ks'.filter (fun k => k.thread == t)) :
    accumulateWith op c ks = accumulateWith op c ks' := by
  funext t p s
  rw [accumulateWith_thread op t ks c c (fun _ _ => rfl), accumulateWith_thread op t ks' c c (fun _ _ => rfl), h t]

/-- `ks` is an interleaving of the threads' own sequences `seq t`, `t < T` -/
def IsInterleaving (T : Nat) (seq : Nat → List Contrib) (ks : List Contrib) : Prop :=
  (∀ k ∈ ks, k.thread < T) ∧ ∀ t, t < T → ks.filter (fun k => k.thread == t) = seq t

theorem IsInterleaving.perm {T : Nat} {seq : Nat → List Contrib} {ks : List Contrib} (h : IsInterleaving T seq ks) :
    ks.Perm ((List.range T).flatMap seq) := by
  have := (C20_partition T ks Contrib.thread h.1).symm
  rwa [flatMap_congr' _ _ seq (fun t ht => h.2 t (List.mem_range.mp ht))] at this

/-- repeated runs with the same `T`: two interleavings of the same per-thread sequences give identical copies for any `op`
    (so with real `double` addition the copies are bit-identical from run to run, given race freedom) -/
theorem C20_run_independent (op : Rat → Rat → Rat) (T : Nat) (seq : Nat → List Contrib) (c : Copies) (ks ks' : List Contrib)
    (h : IsInterleaving T seq ks) (h' : IsInterleaving T seq ks') :
    accumulateWith op c ks = accumulateWith op c ks' := by
  refine C20_interleaving_order op c ks ks' fun t => ?_
  by_cases ht : t < T
  · rw [h.2 t ht, h'.2 t ht]
  · -- no step belongs to a thread `≥ T`
    have e : ∀ l : List Contrib, (∀ k ∈ l, k.thread < T) → l.filter (fun k => k.thread == t) = [] :=
      fun l hl => List.filter_eq_nil_iff.mpr fun k hk =>
        mt beq_iff_eq.mp fun e => ht (e ▸ hl k hk)
    rw [e ks h.1, e ks' h'.1]

private theorem flatMap_range_ite {β : Type} (t : Nat) (l : List β) : ∀ T : Nat,
    ((List.range T).flatMap fun t' => if t' = t then l else []) = if t < T then l else []
  | 0 => rfl
  | T + 1 => by
    rw [List.range_succ, List.flatMap_append, List.flatMap_singleton, flatMap_range_ite t l T]
    rcases Nat.lt_trichotomy t T with h | rfl | h
    · rw [if_pos h, if_neg (Nat.ne_of_gt h), if_pos (Nat.lt_succ_of_lt h), List.append_nil]
    · rw [if_neg (Nat.lt_irrefl _), if_pos rfl, if_pos (Nat.lt_succ_self _), List.nil_append]
    · rw [if_neg (Nat.lt_asymm h), if_neg (Nat.ne_of_lt h), if_neg (Nat.not_lt.mpr h)]; rfl

/-- non-vacuity of `IsInterleaving` in general: running the threads one after the other is an interleaving -/
theorem C20_sequential_isInterleaving (T : Nat) (seq : Nat → List Contrib) (hseq : ∀ t, ∀ k ∈ seq t, k.thread = t) :
    IsInterleaving T seq ((List.range T).flatMap seq) := by
  refine ⟨fun k hk => ?_, fun t ht => ?_⟩
  · obtain ⟨t, ht, hkt⟩ := List.mem_flatMap.mp hk
    rw [hseq t k hkt]; exact List.mem_range.mp ht
  · -- the filter keeps the block of thread `t` and empties all others
    have : ∀ t' ∈ List.range T, (seq t').filter (fun k => k.thread == t) = if t' = t then seq t else [] := by
      intro t' _
      split
      next e => exact e ▸ List.filter_eq_self.mpr fun k hk => beq_iff_eq.mpr (hseq _ k hk)
      next e => exact List.filter_eq_nil_iff.mpr fun k hk => by rw [hseq _ k hk]; simpa using e
    rw [List.filter_flatMap, flatMap_congr' _ _ _ this, flatMap_range_ite, if_pos ht]

/-! ## merge -/

/-- For every `T`, every merge table (duplicates allowed), every list of admissible contributions and EVERY
    interleaving `ks'` of it: after accumulate-then-merge every real slot holds the serial sum, and ALL copies are zero again. -/
theorem C20_merge (T : Nat) (cells : List Cell) (r : Reals) (ks ks' : List Contrib) (hperm : ks'.Perm ks)
    (hadm : ∀ k ∈ ks, admissible T cells k = true) :
    merge T cells (r, accumulate zeroCopies ks') = (serial cells r (ks.map Contrib.untag), zeroCopies) := by
  rw [C20_interleaving zeroCopies ks' ks hperm, merge_accumulate T cells r ks zeroCopies hadm, merge_zero]

/-- pointwise reading of `C20_merge` -/
theorem C20_merge_pointwise (T : Nat) (cells : List Cell) (r : Reals) (ks ks' : List Contrib) (hperm : ks'.Perm ks)
    (hadm : ∀ k ∈ ks, admissible T cells k = true) :
    (∀ p d, (merge T cells (r, accumulate zeroCopies ks')).1 p d = serial cells r (ks.map Contrib.untag) p d) ∧
    (∀ t p s, (merge T cells (r, accumulate zeroCopies ks')).2 t p s = 0) := by
  rw [C20_merge T cells r ks ks' hperm hadm]
  exact ⟨fun _ _ => rfl, fun _ _ _ => rfl⟩

/-- a stage is well formed for `T` threads: whatever the real values, the scheduled steps are admissible and are, up to order and
    thread tags, the serial contributions -/
def StageOK (T : Nat) (sg : Stage) : Prop :=
  ∀ r, (∀ k ∈ sg.schedule r, admissible T sg.cells k = true) ∧
       ((sg.schedule r).map Contrib.untag).Perm (sg.serialContribs r)

/-- A run is a list of stages (symbol stages, force evaluations, of any number of time steps), each "accumulate,
    then merge", all sharing — and reusing the slots of — the same copy vectors; the contributions of a stage depend on the real
    values left by the previous ones.  Starting from zeroed copies, after the whole list the real values equal the serial ones and
    the copies are zero. -/
theorem C20_steps (T : Nat) : ∀ (stages : List Stage) (r : Reals), (∀ sg ∈ stages, StageOK T sg) →
    stages.foldl (runStage T) (r, zeroCopies) = (stages.foldl serialStage r, zeroCopies)
  | [], _, _ => rfl
  | sg :: rest, r, h => by
    obtain ⟨hadm, hperm⟩ := h sg List.mem_cons_self r
    have h1 : runStage T (r, zeroCopies) sg = (serialStage r sg, zeroCopies) := by
      simp only [runStage, serialStage]
      rw [C20_merge T sg.cells r (sg.schedule r) (sg.schedule r) (List.Perm.refl _) hadm]
      rw [serial_perm sg.cells r hperm]
    simp only [List.foldl_cons]
    rw [h1]
    exact C20_steps T rest _ (fun sg' hs => h sg' (List.mem_cons_of_mem _ hs))

/-- `C20_steps` holds after EVERY stage (every prefix of the run) -/
theorem C20_steps_every (T : Nat) (stages : List Stage) (r : Reals) (h : ∀ sg ∈ stages, StageOK T sg) (n : Nat) :
    (stages.take n).foldl (runStage T) (r, zeroCopies) = ((stages.take n).foldl serialStage r, zeroCopies) :=
  C20_steps T (stages.take n) r (fun sg hs => h sg (List.mem_of_mem_take hs))

/-! ## composition -/

/-- Links activated/deactivated by any valid history, `T ≥ 1` threads, pairs generated per link (`gen`), any number
    of `+=` per pair (`contribs`: several forces, both partners, several species/slots), any interleaving `ks` of the threads' step
    sequences: the merged real values are those of the serial build (which runs over its one pair list), and the copies are zero. -/
theorem C20_equal {π : Type} (T : Nat) (hT : 1 ≤ T) (ops : List LinkOp) (hv : validOps [] ops = true)
    (gen : Nat → List π) (contribs : π → List PS) (cells : List Cell) (r : Reals) (ks : List Contrib)
    (hint : IsInterleaving T (fun t => threadSeq contribs (pairList gen (Mgr.init.run T ops) t) t) ks)
    (hadm : ∀ x ∈ serialPairList gen (serialRun [] ops), ∀ c ∈ contribs x, (destOf cells c.particle c.slot).isSome = true) :
    merge T cells (r, accumulate zeroCopies ks)
      = (serial cells r ((serialPairList gen (serialRun [] ops)).flatMap contribs), zeroCopies) := by
  have hK := hint.perm
  -- untagged, the concatenated thread sequences are the concatenated pair lists' contributions
  have huntag : ((List.range T).flatMap fun t => threadSeq contribs (pairList gen (Mgr.init.run T ops) t) t).map Contrib.untag
      = ((List.range T).flatMap (pairList gen (Mgr.init.run T ops))).flatMap contribs := by
    rw [List.map_flatMap, List.flatMap_assoc]
    refine flatMap_congr' _ _ _ fun t _ => ?_
    rw [threadSeq, List.map_flatMap]
    exact flatMap_congr' _ _ _ fun x _ => (List.map_map ..).trans (List.map_id _)
  have hperm : (ks.map Contrib.untag).Perm ((serialPairList gen (serialRun [] ops)).flatMap contribs) := by
    refine (hK.map Contrib.untag).trans ?_
    rw [huntag]
    exact (C20_partition_pairs T hT ops hv gen).flatMap_right contribs
  have hadm' : ∀ k ∈ ks, admissible T cells k = true := by
    intro k hk
    have hmem : k.untag ∈ (serialPairList gen (serialRun [] ops)).flatMap contribs :=
      hperm.subset (List.mem_map_of_mem hk)
    obtain ⟨x, hx, hc⟩ := List.mem_flatMap.mp hmem
    have := hadm x hx _ hc
    simp only [admissible, Bool.and_eq_true, decide_eq_true_eq]
    exact ⟨hint.1 k hk, this⟩
  rw [C20_merge T cells r ks ks (List.Perm.refl _) hadm', serial_perm cells r hperm]

/-- Same input (same link history, pairs, forces), thread counts `T` and `T'`, arbitrary
    interleavings: identical results. -/
theorem C20_thread_count_independent {π : Type} (T T' : Nat) (hT : 1 ≤ T) (hT' : 1 ≤ T') (ops : List LinkOp)
    (hv : validOps [] ops = true) (gen : Nat → List π) (contribs : π → List PS) (cells : List Cell) (r : Reals)
    (ks ks' : List Contrib)
    (hint : IsInterleaving T (fun t => threadSeq contribs (pairList gen (Mgr.init.run T ops) t) t) ks)
    (hint' : IsInterleaving T' (fun t => threadSeq contribs (pairList gen (Mgr.init.run T' ops) t) t) ks')
    (hadm : ∀ x ∈ serialPairList gen (serialRun [] ops), ∀ c ∈ contribs x, (destOf cells c.particle c.slot).isSome = true) :
    merge T cells (r, accumulate zeroCopies ks) = merge T' cells (r, accumulate zeroCopies ks') := by
  rw [C20_equal T hT ops hv gen contribs cells r ks hint hadm, C20_equal T' hT' ops hv gen contribs cells r ks' hint' hadm]

/-! ## layout -/

/-- `Simulation::setupCopyVectors`: with the running offset, the slot ranges `[offset_i, offset_i + n_i)` of the calculators
    (integrators) of one colour in one stage are pairwise disjoint -/
theorem C20_layout_disjoint (ns : List Nat) (i j : Nat) (hi : i < ns.length) (hj : j < ns.length) (hij : i < j) :
    (offsets ns)[i]'(by rw [offsets, offsetsFrom_length]; exact hi) + ns[i]
      ≤ (offsets ns)[j]'(by rw [offsets, offsetsFrom_length]; exact hj) :=
  offsetsFrom_disjoint ns 0 i j hi hj hij

/-! ## non-vacuity: 3 threads, 5 links, two species-like slots, a merge table with a duplicate entry -/

namespace Example

def ops : List LinkOp := [.activate 0, .activate 1, .activate 2, .activate 3, .activate 4]
/-- link `l` generates the pair `(l, l+1)` (and link 3 a second one) -/
def gen (l : Nat) : List (Nat × Nat) := if l = 3 then [(3, 4), (3, 0)] else [(l, l + 1)]
/-- two forces per pair: one on copy slot 0 acting on both partners, one on copy slot 1 acting on the first -/
def contribs (x : Nat × Nat) : List PS := [⟨x.1, 0, 1 / 2⟩, ⟨x.2, 0, -1 / 2⟩, ⟨x.1, 1, (x.2 : Rat) / 3⟩]
/-- copy slot 0 → real slot 7, copy slot 1 → real slot 8, for particles 0..5; the entries for slot 0 appear twice
    (as in `PairParticleScalar::mergeCopies` for a same-colour pair) -/
def cells : List Cell :=
  (List.range 6).flatMap fun p => [⟨p, 0, 7⟩, ⟨p, 1, 8⟩, ⟨p, 0, 7⟩]
def r0 : Reals := fun p d => if d = 7 then (p : Rat) else 0
def seq (T : Nat) (t : Nat) : List Contrib := threadSeq contribs (pairList gen (Mgr.init.run T ops) t) t
/-- all of thread 0, then thread 1, then thread 2 -/
def sched3 : List Contrib := sequentialSchedule 3 contribs (pairList gen (Mgr.init.run 3 ops))
/-- another interleaving: thread 2 first, then threads 1 and 0 alternating -/
def sched3' : List Contrib :=
  seq 3 2 ++ (((seq 3 1).zip (seq 3 0)).flatMap fun (a, b) => [a, b]) ++ (seq 3 0).drop (seq 3 1).length
def serialList : List PS := (serialPairList gen (serialRun [] ops)).flatMap contribs

example : validOps [] ops = true := by decide
/-- round robin with wrap: links 0..4 go to threads 0,1,2,0,1; lists are push-front -/
example : (List.range 3).map (Mgr.init.run 3 ops).firstLink = [[3, 0], [4, 1], [2]] := by decide
example : (Mgr.init.run 3 ops).counter = 2 := by decide
example : serialRun [] ops = [4, 3, 2, 1, 0] := by decide
/-- a deactivation does not move the counter back: link 5 goes to thread 2, not to the freed thread 0 -/
example : (List.range 3).map (Mgr.init.run 3 (ops ++ [.deactivate 0, .activate 5])).firstLink = [[3], [4, 1], [5, 2]] := by
  decide
example : (sched3.map Contrib.untag).Perm serialList ∧ sched3.map Contrib.untag ≠ serialList := by
  refine ⟨?_, by decide +kernel⟩
  have := (IsInterleaving.perm (C20_sequential_isInterleaving 3 (seq 3) (by
      intro t k hk
      simp only [seq, threadSeq, List.mem_flatMap, List.mem_map] at hk
      obtain ⟨_, _, _, _, rfl⟩ := hk; rfl))).map Contrib.untag
  exact this.trans (by decide +kernel)
example : IsInterleaving 3 (seq 3) sched3' ∧ sched3' ≠ sched3 := by
  unfold IsInterleaving; decide +kernel
example : ∀ k ∈ sched3, admissible 3 cells k = true := by decide +kernel
/-- the merged values with 3 threads, for two different interleavings, and with 1, 2, 5 threads: all equal to the serial
    sums on every slot that exists, and the copies are zero -/
example :
    ∀ p ∈ List.range 6, ∀ d ∈ [7, 8],
      (merge 3 cells (r0, accumulate zeroCopies sched3)).1 p d = serial cells r0 serialList p d ∧
      (merge 3 cells (r0, accumulate zeroCopies sched3')).1 p d = serial cells r0 serialList p d ∧
      (∀ T ∈ [1, 2, 5], (merge T cells (r0, accumulate zeroCopies
          (sequentialSchedule T contribs (pairList gen (Mgr.init.run T ops))))).1 p d = serial cells r0 serialList p d) := by
  decide +kernel
example : serial cells r0 serialList 3 7 = 3 + 1 / 2 + 1 / 2 - 1 / 2 ∧ serial cells r0 serialList 3 8 = 4 / 3 := by
  decide +kernel
example : ∀ t ∈ List.range 3, ∀ p ∈ List.range 6, ∀ s ∈ [0, 1],
    (accumulate zeroCopies sched3) 0 3 0 ≠ 0 ∧ (merge 3 cells (r0, accumulate zeroCopies sched3)).2 t p s = 0 := by
  decide +kernel
example : offsets [1, 3, 9, 1] = [0, 1, 4, 13] := by decide

/-- **the admissibility hypothesis is load-bearing** (the shape of controller.cpp:1258, where `runSymbols_0` merges the wrong
    calculator list): a stage whose merge table lacks the entry for copy slot 0 of particle 1 leaves the value in the copy —
    the serial value is lost — and the NEXT stage, which reuses copy slot 0 for another real slot (9), delivers the stale
    value there. -/
theorem C20_unmerged_leak_witness :
    let stage0 : Stage := ⟨[⟨1, 1, 8⟩], fun _ => [⟨1, 0, 5⟩], fun _ => [⟨0, 1, 0, 5⟩]⟩
    let stage1 : Stage := ⟨[⟨1, 0, 9⟩], fun _ => [⟨1, 0, 2⟩], fun _ => [⟨1, 1, 0, 2⟩]⟩
    let omp := [stage0, stage1].foldl (runStage 2) (fun _ _ => 0, zeroCopies)
    (runStage 2 (fun _ _ => 0, zeroCopies) stage0).2 0 1 0 = 5 ∧ omp.1 1 9 = 7 ∧
      (([stage1].foldl serialStage fun _ _ => 0) 1 9 = 2) := by
  decide +kernel

end Example

end Sympler.Threads
