import Sympler.Entropy
/-!
# C12 — without `randomize`, a simulation is exactly reproducible: the seed/entropy logic

PARTIAL (see DESIGN.md): the theorems cover the decision logic over the table of ALL entropy sites of the source
(regenerated on every run).  Use of uninitialised memory and iteration order of pointer-keyed containers are run-time
behaviours; they are reached only by the two-process comparison of the check.
-/
namespace Sympler.Entropy
open Sympler.Gen.Entropy

/-- every entropy site of the source is non-semantic, guarded by `randomize = true`, or made deterministic -/
theorem C12_sites : ∀ s ∈ sites, siteOk sites s = true := by decide +kernel

/-- with `randomize = false` no seed depends on the environment (process id, clock) -/
theorem C12_seed_const : ∀ s ∈ sites, ∀ env env' : Env, seedOf sites false env s = seedOf sites false env' s := by
  have h : ∀ s ∈ sites, (s.kind == "pid-seed" → s.guard == "randomize") ∧
      (s.kind == "time-seed" → (s.guard == "randomize" ∨ (s.func == "main" ∧ randReseeded sites = true))) := by decide +kernel
  intro s hs env env'
  obtain ⟨h1, h2⟩ := h s hs
  unfold seedOf
  by_cases hp : s.kind == "pid-seed"
  · have := h1 hp
    simp [hp, this]
  · by_cases ht : s.kind == "time-seed"
    · rcases h2 ht with hg | ⟨hm, hr⟩
      · simp [hp, ht, hg]
      · by_cases hg : s.guard == "randomize"
        · simp [hp, ht, hg]
        · simp_all
    · simp [hp, ht]

/-- the table is not empty and contains the seeds of the simulation-wide generator and of `rand()` (non-vacuity) -/
example : (sites.any fun s => s.kind == "pid-seed" && s.func == "Simulation::setup") = true ∧
    (sites.any fun s => s.kind == "time-seed" && s.func == "main") = true ∧ randReseeded sites = true := by decide +kernel

/-- sensitivity: without the re-seed in `Simulation::setup` the clock seed of `rand()` in `main` is not acceptable -/
example : siteOk (sites.filter fun s => s.kind != "const-srand") ⟨"src/main.cpp", "main", "time-seed", "none"⟩ = false := by decide +kernel

end Sympler.Entropy
