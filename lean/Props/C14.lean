import Sympler.DataFormatReads
import Sympler.DataFormatErrors
import Sympler.DataFormatText
/-!
# C14 — run-time extensible per-particle records keep every attribute intact

Model: `Sympler/DataFormat.lean` (`DataFormat`, `Data`, `SmartPointer` of
`/repo/source/{include,src}/basic/data_format.*`, `smart_pointer.h`).  The theorems about states quantify over
every operation list `ops : List Op` executed from the empty state (`run al nc State.init ops`),
for every value `al` of the static alignment table (`none`: `alignDataFor` never called) and
every number codec `nc`; those about `Format.addAttribute` and about the text forms hold for every
format, resp. every number codec with the stated properties.

What the C++ really does and the model therefore states (findings, each with a `_witness` below):
attributes are misaligned without `alignDataFor`; `operator=` between records of the same format
leaks the containers of the destination; `clear` frees a container and leaves a null pointer; the
copy constructor / `operator=` duplicate `std::string` by `memcpy`; assigning `""` to a never-set
STRING writes through null.
-/
namespace Sympler.DataFormat

open Sympler.Gen.DataFormat

/-- the error an operation ends in, if any -/
def errOf {α : Type} : Except Err α → Option Err
  | .error e => some e
  | .ok _ => none

/-- the state reached by a list of operations -/
abbrev reach (al : Option Nat) (nc : NumCodec) (ops : List Op) : State := run al nc State.init ops

theorem reach_inv (al : Option Nat) (nc : NumCodec) (ops : List Op) : Inv al (reach al nc ops) :=
  Inv.run ops (Inv.init al)

/-! ## The generated tables -/

/-- consistency of `Sympler/Gen/DataFormatGen.lean` with the model's enum; the three smart pointer
    tables name the same types; every `case` of `fromStringByIndex` is also one of
    `toStringByIndex`; sizes are positive, C++ alignments divide 8 -/
theorem C14_gen_tables :
    datatypeNames = DType.all.map DType.name ∧ eoDatatype = DType.all.length ∧
    sizeofRaw.length = eoDatatype ∧ alignofCxx.length = eoDatatype ∧ dataAlignment = 3 ∧
    (∀ t : DType, t.isContainer = allocSmartPointer.contains t.toNat) ∧
    (∀ t : DType, t.isContainer = releaseSmartPointer.contains t.toNat) ∧
    (∀ t : DType, t.fromStringSupported = true → t.toStringSupported = true) ∧
    fromStringNoFallthrough = true ∧
    (∀ t : DType, 0 < t.rawSize ∧ t.cxxAlign ∣ 8 ∧ t.rawSize % t.cxxAlign = 0) := by
  refine ⟨by decide, by decide, by decide, by decide, by decide, ?_, ?_, ?_, by decide, ?_⟩ <;>
    intro t <;> cases t <;> decide

/-! ## Layout -/

/-- In every reachable state, for every format: indices are positions,
    offsets are the cumulative sums of the (aligned) sizes in index order, the total size is the sum of
    all, two different attributes occupy disjoint byte ranges, every attribute lies inside the total
    size, the C++ object fits into the bytes reserved for it; and if `alignDataFor(n)` was called with
    `n ≥ 3` every offset is a multiple of 8 and of the alignment of the C++ type stored there.
    For every live record with a block: the block holds exactly the first `k` attributes of its
    (possibly grown) format and its byte size is the offset at which attribute `k` would start. -/
theorem C14_layout_inv (al : Option Nat) (nc : NumCodec) (ops : List Op) :
    (∀ (fid : Nat) (f : Format), (reach al nc ops).fmts[fid]? = some f →
      (∀ (i : Nat) (a : Attr), f.byIndex[i]? = some a →
        a.index = i ∧ a.offset = prefixSize al (f.byIndex.take i)) ∧
      f.size = prefixSize al f.byIndex ∧
      (∀ (i j : Nat) (a b : Attr), f.byIndex[i]? = some a → f.byIndex[j]? = some b → i < j →
        a.offset + csize al a.dtype ≤ b.offset) ∧
      (∀ (i : Nat) (a : Attr), f.byIndex[i]? = some a →
        a.offset + csize al a.dtype ≤ f.size ∧ a.dtype.rawSize ≤ csize al a.dtype) ∧
      (∀ n, al = some n → 3 ≤ n → ∀ (i : Nat) (a : Attr), f.byIndex[i]? = some a →
        a.offset % 8 = 0 ∧ a.offset % a.dtype.cxxAlign = 0 ∧ a.misaligned = false)) ∧
    (∀ (d fid : Nat) (dat : Data) (b : Block), (reach al nc ops).datas[d]? = some (some dat) →
      dat.fmt = some fid → dat.block = some b →
      ∃ f : Format, (reach al nc ops).fmts[fid]? = some f ∧ b.vals.length ≤ f.byIndex.length ∧
        b.size = prefixSize al (f.byIndex.take b.vals.length) ∧ b.size ≤ f.size) := by
  have hinv := reach_inv al nc ops
  constructor
  · intro fid f hf
    have hfo := hinv.fmts fid f hf
    refine ⟨fun i a h => ⟨hfo.index i a h, hfo.offset i a h⟩, hfo.size,
      fun i j a b hi hj hij => hfo.disjoint hi hj hij,
      fun i a h => ⟨hfo.end_le_size h, rawSize_le_csize al a.dtype⟩, ?_⟩
    intro n hal hn i a h
    subst hal
    obtain ⟨h8, hm⟩ := hfo.aligned hn h
    refine ⟨Nat.mod_eq_zero_of_dvd h8, ?_, hm⟩
    exact Nat.mod_eq_zero_of_dvd (Nat.dvd_trans (cxxAlign_dvd_8 a.dtype) h8)
  · intro d fid dat b hd hfid hb
    have hdo := hinv.datas d dat hd
    unfold DataOk at hdo
    simp only [hfid] at hdo
    obtain ⟨f, hf, hbo⟩ := hdo
    have := hbo b hb
    exact ⟨f, hf, this.len, this.size, this.size_le (hinv.fmts fid f hf)⟩

/-- witness: WITHOUT `alignDataFor` (only `main()` calls it) an INT followed by a DOUBLE puts the
    double at offset 4 -/
theorem C14_layout_misaligned_without_alignDataFor :
    ((reach none NumCodec.model [.fmt, .fadd 0 "i" .INT false "", .fadd 0 "x" .DOUBLE false ""]).fmts[0]?.bind
        (·.byIndex[1]?)).map (fun a => (a.offset, a.dtype.cxxAlign, a.misaligned)) = some (4, 8, true) := by
  decide +kernel

/-- with `alignDataFor(DATA_ALIGNMENT)` the same two attributes: offset 8 -/
example :
    ((reach (some dataAlignment) NumCodec.model [.fmt, .fadd 0 "i" .INT false "", .fadd 0 "x" .DOUBLE false ""]).fmts[0]?.bind
        (·.byIndex[1]?)).map (fun a => (a.offset, a.misaligned)) = some (8, false) := by
  decide +kernel

/-- Whatever operation is tried in a reachable
    state, it never dereferences a freed heap cell, and after `alignDataFor(n)`, `n ≥ 3`, it never
    touches an object at a misaligned address. -/
theorem C14_no_uaf_no_misaligned (al : Option Nat) (nc : NumCodec) (ops : List Op) (op : Op) (e : Err)
    (h : step al nc (reach al nc ops) op = .error e) :
    e ≠ .ubUaf ∧ (∀ n, al = some n → 3 ≤ n → e ≠ .ubMisaligned) :=
  step_err (reach_inv al nc ops) h

/-! ## Adding attributes -/

/-- A successful add leaves every existing attribute
    (name, index, offset, type, persistence, symbol) and every by-name entry unchanged; a new
    attribute gets the next index and the old total size as offset. -/
theorem C14_add_preserves_format (al : Option Nat) (f f' : Format) (name symbol : String) (t : DType)
    (pers : Bool) (a : Attr) (h : f.addAttribute al name t pers symbol = .ok (a, f')) :
    (∀ (i : Nat) (x : Attr), f.byIndex[i]? = some x → f'.byIndex[i]? = some x) ∧
    (∀ (n : String) (x : Attr), f.find n = some x → f'.find n = some x) ∧
    (f.find name = none → a.index = f.byIndex.length ∧ a.offset = f.size ∧ a.dtype = t ∧
      a.persistent = pers ∧ f'.byIndex[a.index]? = some a ∧ f'.find name = some a ∧
      f'.size = f.size + csize al t) := by
  rcases Format.addAttribute_ok_cases h with ⟨hfind, ha, hf'⟩ | ⟨hfind, _, hf'⟩
  · subst hf'
    refine ⟨fun i x hx => ?_, fun n x hx => Format.find_append_of_some hx, fun _ => ?_⟩
    · rw [List.getElem?_append_left ((List.getElem?_eq_some_iff.1 hx).1)]; exact hx
    · have hidx : a.index = f.byIndex.length := by rw [ha]
      have hname : a.name = name := by rw [ha]
      refine ⟨hidx, by rw [ha], by rw [ha], by rw [ha], by rw [hidx]; simp, ?_, rfl⟩
      show (f.byName ++ [a]).find? (fun b => b.name == name) = some a
      rw [List.find?_append]
      have : f.byName.find? (fun b => b.name == name) = none := hfind
      rw [this]; simp [hname]
  · subst hf'
    exact ⟨fun _ _ hx => hx, fun _ _ hx => hx, fun hn => by rw [hn] at hfind; cases hfind⟩

/-- In every reachable
    state: after `D->addAttribute(...)` every successful read of `D` and of every other record
    returns what it returned before, the returned attribute, if new (and aligned), reads as
    zero / empty; `F->addAttribute(...)` changes no read of any record. -/
theorem C14_add_preserves (al : Option Nat) (nc : NumCodec) (ops : List Op) :
    (∀ (d : Nat) (name symbol : String) (t : DType) (pers : Bool) (s' : State) (o : Out),
      step al nc (reach al nc ops) (.dadd d name t pers symbol) = .ok (s', o) →
      (∀ (x i : Nat) (r : RVal), (reach al nc ops).read x i = .ok r → s'.read x i = .ok r) ∧
      ∃ a : Attr, o = .attr a ∧
        ((∀ (dat : Data) (fid : Nat) (f : Format), (reach al nc ops).datas[d]? = some (some dat) →
            dat.fmt = some fid → (reach al nc ops).fmts[fid]? = some f → f.find name = none) →
          a.misaligned = false → s'.read d a.index = .ok (RVal.zero t))) ∧
    (∀ (fid : Nat) (name symbol : String) (t : DType) (pers : Bool) (s' : State) (o : Out),
      step al nc (reach al nc ops) (.fadd fid name t pers symbol) = .ok (s', o) →
      ∀ (x i : Nat) (r : RVal), (reach al nc ops).read x i = .ok r → s'.read x i = .ok r) := by
  have hinv := reach_inv al nc ops
  constructor
  · intro d name symbol t pers s' o h
    obtain ⟨a, hd, ho⟩ := step_dadd h
    refine ⟨fun x i r hr => ?_, a, ho, fun hnew hm => dadd_new_reads_zero hinv hd hnew hm⟩
    by_cases hx : x = d
    · subst hx; exact dadd_reads hd hr
    · exact read_frame hinv (step_frame hinv h) (by simp [Op.target]; exact hx) hr
  · intro fid name symbol t pers s' o h x i r hr
    exact read_frame hinv (step_frame hinv h) (by simp [Op.target]) hr

/-- non-vacuity: a record grows by a container attribute, the old value is still there, the new
    attribute reads as the empty vector -/
example :
    ((reach (some 3) NumCodec.model
      [.fmt, .fadd 0 "n" .INT false "", .new 0, .set 0 0 (.int 7), .dadd 0 "v" .VECTOR_DOUBLE true ""]).read 0 0).toOption
      = some (.int 7) ∧
    ((reach (some 3) NumCodec.model
      [.fmt, .fadd 0 "n" .INT false "", .new 0, .set 0 0 (.int 7), .dadd 0 "v" .VECTOR_DOUBLE true ""]).read 0 1).toOption
      = some (.vec []) := by decide +kernel

/-- Asking again for an existing name with the same type returns the registered
    attribute and changes nothing (whatever `persistent` and `symbol` are passed). -/
theorem C14_add_idempotent (al : Option Nat) (f : Format) (name symbol : String) (t : DType) (pers : Bool)
    (a : Attr) (hfind : f.find name = some a) (hty : a.dtype = t) :
    f.addAttribute al name t pers symbol = .ok (a, f) := by
  unfold Format.addAttribute
  simp [hfind, hty]

/-- In a reachable state the attribute registered under a name is the by-index attribute up to
    `persistent` (`protect/unprotect` write the by-index table only). -/
theorem C14_add_idempotent_reachable (al : Option Nat) (nc : NumCodec) (ops : List Op) (fid : Nat) (f : Format)
    (name : String) (a : Attr) (hf : (reach al nc ops).fmts[fid]? = some f) (hfind : f.find name = some a) :
    a.name = name ∧ ∃ b : Attr, f.byIndex[a.index]? = some b ∧ a.samePers b := by
  obtain ⟨hmem, hname⟩ := Format.find_some_mem hfind
  exact ⟨hname, (reach_inv al nc ops |>.fmts fid f hf).byName a hmem⟩

/-- adding twice: the second call returns the attribute of the first and the same format -/
theorem C14_add_twice (al : Option Nat) (f f' : Format) (name s1 s2 : String) (t : DType) (p1 p2 : Bool)
    (a : Attr) (hnew : f.find name = none) (h : f.addAttribute al name t p1 s1 = .ok (a, f')) :
    f'.addAttribute al name t p2 s2 = .ok (a, f') := by
  obtain ⟨_, _, h3⟩ := C14_add_preserves_format al f f' name s1 t p1 a h
  obtain ⟨_, _, hty, _, _, hfind, _⟩ := h3 hnew
  exact C14_add_idempotent al f' name s2 t p2 a hfind hty

/-- Asking for an existing name with another type is the error
    "Type mismatch during request of attribute" and (being an exception) changes nothing. -/
theorem C14_add_conflict (al : Option Nat) (f : Format) (name symbol : String) (t : DType) (pers : Bool)
    (a : Attr) (hfind : f.find name = some a) (hty : a.dtype ≠ t) :
    f.addAttribute al name t pers symbol = .error .typeMismatch := by
  unfold Format.addAttribute
  simp [hfind, hty]

example : ((Format.empty.addAttribute (some 3) "rho" .DOUBLE false "").toOption.map (·.2)).bind
      (fun f => (f.addAttribute (some 3) "rho" .INT false "").toOption) = none := by decide +kernel

/-! ## Copies -/

/-- In every reachable state `s`:
    (a) the copy constructor and `operator=` produce a record on which every successful read of the
        source gives the same result;
    (b) independence: no operation changes any successful read of a record other than the one it
        is applied to (so what is done to a copy does not affect the source, and vice versa);
    (c) every smart pointer of every live record points to a live heap cell whose reference count is
        1 and which has no other referent;
    (d) every live heap cell has reference count 1 and is referenced (exactly once, by (c)) or is in
        the ghost list `leaked` of cells whose last pointer was overwritten by `operator=`; leaked
        cells have no referent. -/
theorem C14_copy_deep (al : Option Nat) (nc : NumCodec) (ops : List Op) :
    (∀ (e : Nat) (s' : State) (o : Out), step al nc (reach al nc ops) (.copy e) = .ok (s', o) →
      o = .data (reach al nc ops).datas.length ∧
      ∀ (i : Nat) (r : RVal), (reach al nc ops).read e i = .ok r →
        s'.read (reach al nc ops).datas.length i = .ok r) ∧
    (∀ (d e : Nat) (s' : State) (o : Out), step al nc (reach al nc ops) (.assign d e) = .ok (s', o) →
      ∀ (i : Nat) (r : RVal), (reach al nc ops).read e i = .ok r → s'.read d i = .ok r) ∧
    (∀ (op : Op) (s' : State) (o : Out), step al nc (reach al nc ops) op = .ok (s', o) →
      ∀ (x i : Nat) (r : RVal), some x ≠ op.target → (reach al nc ops).read x i = .ok r → s'.read x i = .ok r) ∧
    (∀ (d k a : Nat), (reach al nc ops).slotVal d k = some (Val.sp (some a)) →
      (∃ c : Cell, (reach al nc ops).heap[a]? = some (some c) ∧ c.rc = 1) ∧
      ∀ (d' k' : Nat), (reach al nc ops).slotVal d' k' = some (Val.sp (some a)) → d' = d ∧ k' = k) ∧
    (∀ (a : Nat) (c : Cell), (reach al nc ops).heap[a]? = some (some c) → c.rc = 1 ∧
      ((∃ d k : Nat, (reach al nc ops).slotVal d k = some (Val.sp (some a))) ∨ a ∈ (reach al nc ops).leaked)) ∧
    (∀ a ∈ (reach al nc ops).leaked, ∀ (d k : Nat), (reach al nc ops).slotVal d k ≠ some (Val.sp (some a))) := by
  have hinv := reach_inv al nc ops
  refine ⟨?_, ?_, ?_, ?_, ?_, ?_⟩
  · intro e s' o h
    obtain ⟨id, hc, ho⟩ := step_copy h
    obtain ⟨_, _, hid, _⟩ := copyData_ok hc
    subst hid
    exact ⟨ho, fun i r hr => copy_reads hinv hc hr⟩
  · intro d e s' o h i r hr
    exact assign_reads hinv (step_assign h) hr
  · intro op s' o h x i r hx hr
    exact read_frame hinv (step_frame hinv h) hx hr
  · intro d k a hk
    have hown : owns (valsOf (reach al nc ops).datas d) a := ⟨k, hk⟩
    obtain ⟨c, hc⟩ := hinv.heap.live d a hown
    refine ⟨⟨c, hc, hinv.heap.rc a c hc⟩, fun d' k' hk' => ?_⟩
    have hd := hinv.heap.sep d' d a ⟨k', hk'⟩ hown
    subst hd
    exact ⟨rfl, hinv.heap.inj d' k' k a hk' hk⟩
  · intro a c hc
    refine ⟨hinv.heap.rc a c hc, ?_⟩
    rcases hinv.heap.complete a c hc with ⟨d, k, hk⟩ | hl
    · exact Or.inl ⟨d, k, hk⟩
    · exact Or.inr hl
  · intro a ha d k hk
    exact hinv.heap.leakSep a ha d ⟨k, hk⟩

/-- non-vacuity of (a)–(c): copy a record with a container, push into the copy, the source is
    unchanged; assign back, both agree again -/
example :
    ((reach (some 3) NumCodec.model
        [.fmt, .fadd 0 "v" .VECTOR_INT false "", .new 0, .push 0 0 (.int 1), .copy 0, .push 1 0 (.int 2)]).read 0 0).toOption
      = some (.vec [.int 1]) ∧
    ((reach (some 3) NumCodec.model
        [.fmt, .fadd 0 "v" .VECTOR_INT false "", .new 0, .push 0 0 (.int 1), .copy 0, .push 1 0 (.int 2)]).read 1 0).toOption
      = some (.vec [.int 1, .int 2]) ∧
    ((reach (some 3) NumCodec.model
        [.fmt, .fadd 0 "v" .VECTOR_INT false "", .new 0, .push 0 0 (.int 1), .copy 0, .push 1 0 (.int 2),
         .assign 0 1]).read 0 0).toOption = some (.vec [.int 1, .int 2]) := by decide +kernel

/-- finding (leak): `operator=` between two records of the same format overwrites the smart
    pointers of the destination by `memcpy` without releasing them: the destination's vector (cell 1)
    stays allocated with reference count 1 and no referent. -/
theorem C14_assign_leaks_witness :
    (reach (some 3) NumCodec.model
      [.fmt, .fadd 0 "v" .VECTOR_DOUBLE false "", .new 0, .new 0, .assign 1 0]).leaked = [1] ∧
    (reach (some 3) NumCodec.model
      [.fmt, .fadd 0 "v" .VECTOR_DOUBLE false "", .new 0, .new 0, .assign 1 0]).heap[1]? = some (some ⟨[], 1⟩) := by
  decide +kernel

/-- If no `operator=` is executed, the ghost list stays empty: every
    live heap cell has reference count 1 and exactly one referent (reference count = number of
    referents), and a cell is freed exactly when its count drops to 0 (`Heap.release`). -/
theorem C14_no_leak_without_assign (al : Option Nat) (nc : NumCodec) (ops : List Op)
    (hno : ∀ op ∈ ops, op.isAssign = false) :
    (reach al nc ops).leaked = [] ∧
    ∀ (a : Nat) (c : Cell), (reach al nc ops).heap[a]? = some (some c) → c.rc = 1 ∧
      ∃ d k : Nat, (reach al nc ops).slotVal d k = some (Val.sp (some a)) ∧
        ∀ d' k' : Nat, (reach al nc ops).slotVal d' k' = some (Val.sp (some a)) → d' = d ∧ k' = k := by
  have hl : (reach al nc ops).leaked = [] := run_leaked ops hno State.init (Inv.init al)
  refine ⟨hl, fun a c hc => ?_⟩
  obtain ⟨_, _, _, h4, h5, _⟩ := C14_copy_deep al nc ops
  obtain ⟨hrc, hor⟩ := h5 a c hc
  refine ⟨hrc, ?_⟩
  rcases hor with ⟨d, k, hk⟩ | hmem
  · exact ⟨d, k, hk, (h4 d k a hk).2⟩
  · rw [hl] at hmem; cases hmem

/-- finding: The copy constructor duplicates an assigned `std::string` with `memcpy`
    (model: the operation is the error `ubStrCopy`; real code: both records share one character
    buffer). -/
theorem C14_copy_string_witness :
    errOf (step (some 3) NumCodec.model
      (reach (some 3) NumCodec.model [.fmt, .fadd 0 "s" .STRING false "", .new 0, .set 0 0 (.str (some ['a']))])
      (.copy 0)) = some .ubStrCopy := by
  decide +kernel

/-! ## Clearing -/

/-- `D->clear()` in a reachable state: the slot of every attribute inside the
    block becomes the all-zero pattern exactly when the attribute is not persistent (by-index flag)
    and is untouched otherwise; every successful read of a persistent attribute and of every other
    record is unchanged; formats are unchanged. -/
theorem C14_clear_exact (al : Option Nat) (nc : NumCodec) (ops : List Op) (d : Nat) (s' : State) (o : Out)
    (h : step al nc (reach al nc ops) (.clear d) = .ok (s', o)) :
    ∃ (dat : Data) (fid : Nat) (f : Format), (reach al nc ops).datas[d]? = some (some dat) ∧
      dat.fmt = some fid ∧ (reach al nc ops).fmts[fid]? = some f ∧ s'.fmts = (reach al nc ops).fmts ∧
      (∀ (i : Nat) (v : Val) (a : Attr), (reach al nc ops).slotVal d i = some v → f.byIndex[i]? = some a →
        s'.slotVal d i = some (if a.persistent then v else zeroVal a.dtype)) ∧
      (∀ i, (reach al nc ops).slotVal d i = none → s'.slotVal d i = none) ∧
      (∀ (i : Nat) (a : Attr) (r : RVal), f.byIndex[i]? = some a → a.persistent = true →
        (reach al nc ops).read d i = .ok r → s'.read d i = .ok r) ∧
      (∀ (x i : Nat) (r : RVal), x ≠ d → (reach al nc ops).read x i = .ok r → s'.read x i = .ok r) := by
  have hinv := reach_inv al nc ops
  have hc := step_clear h
  obtain ⟨dat, fid, f, hd, hfid, hf, hfm, hchar, hnone, _⟩ := clear_exact hinv hc
  refine ⟨dat, fid, f, hd, hfid, hf, hfm, ?_, hnone, ?_, ?_⟩
  · intro i v a hv ha
    have := hchar i v a hv ha
    rw [this]
    cases a.persistent <;> simp
  · exact fun i a r ha hp hr => clear_reads_kept hinv hc hd hfid hf ha (by simp [hp]) hr
  · intro x i r hx hr
    exact read_frame hinv (step_frame hinv h) (by simp [Op.target]; exact hx) hr

/-- finding: "Zero" for a container attribute is a null smart pointer, not an empty vector:
    after `clear` reading the attribute or copying the record dereferences a null pointer. -/
theorem C14_clear_container_witness :
    errOf (step (some 3) NumCodec.model
      (reach (some 3) NumCodec.model [.fmt, .fadd 0 "v" .VECTOR_DOUBLE false "", .new 0, .clear 0]) (.get 0 0))
      = some .ubNullSp ∧
    errOf (step (some 3) NumCodec.model
      (reach (some 3) NumCodec.model [.fmt, .fadd 0 "v" .VECTOR_DOUBLE false "", .new 0, .clear 0]) (.copy 0))
      = some .ubNullSp := by
  decide +kernel

/-- non-vacuity: a persistent and a non-persistent attribute, `clear` zeroes the second only -/
example :
    ((reach (some 3) NumCodec.model
        [.fmt, .fadd 0 "p" .INT true "", .fadd 0 "q" .INT false "", .new 0, .set 0 0 (.int 5), .set 0 1 (.int 6),
         .clear 0]).read 0 0).toOption = some (.int 5) ∧
    ((reach (some 3) NumCodec.model
        [.fmt, .fadd 0 "p" .INT true "", .fadd 0 "q" .INT false "", .new 0, .set 0 0 (.int 5), .set 0 1 (.int 6),
         .clear 0]).read 0 1).toOption = some (.int 0) := by decide +kernel

/-! ## Text -/

/-- For every number codec that satisfies `NumCodec.Good` on `dom`
    (`%g` prints no `(`, `)`, `,`; `atof` reads its output back, also after one blank — for glibc this
    holds for the doubles nearest to decimals with at most 6 significant digits) and whose
    `atoi ∘ %i` is the identity on `idom`: `fromStringByIndex (toStringByIndex v) = v` for INT,
    DOUBLE, POINT, TENSOR and for every STRING without exception (no character is special:
    `toString` returns the stored string, `fromString` assigns the text).
    For INT_POINT and VECTOR_TENSOR `toStringByIndex` throws, for INT_POINT and all VECTOR_* types
    `fromStringByIndex` throws ("Unsupported data format"). -/
theorem C14_text_roundtrip (nc : NumCodec) (dom : Rat → Prop) (idom : Int → Prop) (hg : nc.Good dom)
    (hi : ∀ n, idom n → nc.atoi (nc.fmtI n) = n) :
    (∀ n txt, idom n → toText nc .INT (.int n) = .ok txt → fromText nc .INT txt = .ok (.int n)) ∧
    (∀ x txt, dom x → toText nc .DOUBLE (.dbl x) = .ok txt → fromText nc .DOUBLE txt = .ok (.dbl x)) ∧
    (∀ p txt, P3.dom dom p → toText nc .POINT (.pt p) = .ok txt → fromText nc .POINT txt = .ok (.pt p)) ∧
    (∀ t txt, T9.dom dom t → toText nc .TENSOR (.tens t) = .ok txt → fromText nc .TENSOR txt = .ok (.tens t)) ∧
    (∀ s txt, toText nc .STRING (.str s) = .ok txt → fromText nc .STRING txt = .ok (.str (some s))) ∧
    (∀ r, toText nc .INT_POINT r = .error .unsupported ∧ toText nc .VECTOR_TENSOR r = .error .unsupported) ∧
    (∀ t : DType, t.fromStringSupported = false → ∀ txt, fromText nc t txt = .error .unsupported) := by
  refine ⟨fun n txt hn h => ?_, fun x txt hx h => ?_, fun p txt hp h => ?_, fun t txt ht h => ?_,
    fun s txt h => ?_, fun r => ?_, fun t ht txt => ?_⟩
  · cases h; exact congrArg (fun z => Except.ok (Val.int z)) (hi n hn)
  · cases h; exact congrArg (fun z => Except.ok (Val.dbl z)) (hg.atof_fmtG x hx)
  · cases h; exact congrArg (fun z => Except.ok (Val.pt z)) (parsePoint_showPoint hg hp)
  · cases h; exact congrArg (fun z => Except.ok (Val.tens z)) (parseTensor_showTensor hg ht)
  · cases h; rfl
  · cases r <;> exact ⟨rfl, rfl⟩
  · cases t <;> first | rfl | (exact absurd ht (by decide))

/-- the same for whatever type and value the two functions are called with -/
theorem roundtrip_val {nc : NumCodec} {dom : Rat → Prop} {idom : Int → Prop} (hg : nc.Good dom)
    (hi : ∀ n, idom n → nc.atoi (nc.fmtI n) = n) {t : DType} {r : RVal} {txt : List Char} {v : Val}
    (hdom : RVal.inDom dom idom r) (htt : toText nc t r = .ok txt) (hv : fromText nc t txt = .ok v) :
    v.toR = some r := by
  obtain ⟨h1, h2, h3, h4, h5, _⟩ := C14_text_roundtrip nc dom idom hg hi
  unfold toText at htt
  split at htt
  · rw [h1 _ _ hdom htt] at hv; cases hv; rfl
  · rw [h2 _ _ hdom htt] at hv; cases hv; rfl
  · rw [h3 _ _ hdom htt] at hv; cases hv; rfl
  · rw [h4 _ _ hdom htt] at hv; cases hv; rfl
  · rw [h5 _ _ htt] at hv; cases hv; rfl
  · cases hv
  · cases hv
  · cases hv
  · cases htt

/-- In a reachable state, writing attribute `i` of record `d` to
    text and reading that text back into the same attribute (`fromStringByIndex(i,
    toStringByIndex(i))`) leaves a record whose attribute reads as before, for every attribute type
    both functions handle and every value in the codec's domain.  (The second call is not defined
    only for a never-assigned STRING, whose text is empty: `C14_string_empty_witness`.) -/
theorem C14_text_roundtrip_state (al : Option Nat) (nc : NumCodec) (ops : List Op) (dom : Rat → Prop)
    (idom : Int → Prop) (hg : nc.Good dom) (hi : ∀ n, idom n → nc.atoi (nc.fmtI n) = n)
    (d i : Nat) (r : RVal) (txt : List Char) (s' : State)
    (hr : (reach al nc ops).read d i = .ok r) (hdom : RVal.inDom dom idom r)
    (ht : toStrData nc (reach al nc ops) d i = .ok txt)
    (hf : fromStrData nc (reach al nc ops) d i txt = .ok s') :
    s'.read d i = .ok r := by
  obtain ⟨l, r', hl, hr', htt⟩ := toStrData_ok ht
  rw [hr] at hr'; cases hr'
  obtain ⟨l', v, hl', hv, hw⟩ := fromStrData_ok hf
  rw [hl] at hl'; cases hl'
  exact read_after_write hl hw (roundtrip_val hg hi hdom htt hv)

/-- finding: A STRING attribute that was never assigned reads as the empty string, but
    assigning the empty string to it (so also reading back its own text) writes through the null
    `_M_p` of the all-zero `std::string`. -/
theorem C14_string_empty_witness :
    errOf (step (some 3) NumCodec.model
      (reach (some 3) NumCodec.model [.fmt, .fadd 0 "s" .STRING false "", .new 0]) (.fromstr 0 0 [])) = some .ubStrNull ∧
    ((reach (some 3) NumCodec.model [.fmt, .fadd 0 "s" .STRING false "", .new 0]).read 0 0).toOption
      = some (.str []) := by
  decide +kernel

/-- a finite table on which the executable model of `%g` / `atof` / `%i` / `atoi` satisfies the
    assumptions of the round trip theorems (non-vacuity of `NumCodec.Good`): zero, negative, tiny,
    ≥ 1e6, six significant digits, both notations -/
def sampleDoubles : List Rat :=
  [0, 1, -1, 3/8, -5/2, 1/10, 123456, 1234560, 1000000, 999999, 1/100000, 1/10000, -123456/100000000000,
   5/1000000000000000, 271828/100000, 602214/1000 * 1000000000000000000000]

def sampleInts : List Int := [0, 1, -1, 42, -99999, 999999999, -999999999]

theorem C14_model_codec_good :
    NumCodec.model.Good (fun x => x ∈ sampleDoubles) ∧
    ∀ n, n ∈ sampleInts → NumCodec.model.atoi (NumCodec.model.fmtI n) = n := by
  have key : ∀ x ∈ sampleDoubles, '(' ∉ NumCodec.model.fmtG x ∧ ')' ∉ NumCodec.model.fmtG x ∧
      ',' ∉ NumCodec.model.fmtG x ∧ NumCodec.model.atof (NumCodec.model.fmtG x) = x ∧
      NumCodec.model.atof (' ' :: NumCodec.model.fmtG x) = x := by decide +kernel
  exact ⟨⟨fun x hx => (key x hx).1, fun x hx => (key x hx).2.1, fun x hx => (key x hx).2.2.1,
    fun x hx => (key x hx).2.2.2.1, fun x hx => (key x hx).2.2.2.2⟩, fun n _ => atoiModel_fmtIModel n⟩

/-- for the executable codec the INT assumption of the round trip theorems holds for every integer
    (character level: decimal digits, optional minus sign) -/
theorem C14_text_roundtrip_int_model (n : Int) : NumCodec.model.atoi (NumCodec.model.fmtI n) = n :=
  atoiModel_fmtIModel n

/-- non-vacuity of the record-level round trip with the executable codec -/
example :
    ((reach (some 3) NumCodec.model
        [.fmt, .fadd 0 "p" .POINT false "", .new 0, .set 0 0 (.pt ⟨3/8, -5/2, 1234560⟩),
         .fromstr 0 0 "(0.375, -2.5, 1.23456e+06)".toList]).read 0 0).toOption = some (.pt ⟨3/8, -5/2, 1234560⟩) ∧
    (toStrData NumCodec.model (reach (some 3) NumCodec.model
        [.fmt, .fadd 0 "p" .POINT false "", .new 0, .set 0 0 (.pt ⟨3/8, -5/2, 1234560⟩)]) 0 0).toOption
      = some "(0.375, -2.5, 1.23456e+06)".toList := by decide +kernel

end Sympler.DataFormat
