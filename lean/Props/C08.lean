/-
Property C08 — "Walls confine particles; reflection laws hold", part B: the collision loop
(`Cell::doCollision`, `Cell::checkForHit`, `WallTriangle::hit`, `Cell::checkNewPosition`) for FORCE-FREE flight in an
axis-aligned `BoundaryCuboid` closed by walls in its non-periodic directions.  Model: `Sympler/Collide.lean`.
The reflection laws themselves (over ℝ, from the generated definitions) are part A, `PropsR/C08.lean`; the hit times of
accelerated flight are part C, `PropsR/C08Force.lean`.

Proved for all inputs (every box, cell grid, wall/periodic combination, reflector ∈ {mirror, bounce-back}, position, velocity,
time step, tolerances).  The two witnesses at the end: with `ReflectorMirror` THE REAL CODE LOSES A PARTICLE that hits an edge
exactly (reproduced on the binary, /verif/sim/corr_walls.py, finding `C08-edge-hit-lost`), so the hypothesis `NoEdge` is needed;
and the "too many collisions" branch of the theorems is really taken.

PARTIAL (not covered by any theorem here; exercised only by the correspondence/oracle of /verif/sim/corr_walls.py):
  * accelerated flight (non-zero force) IN THE LOOP: the hit times of one wall plane under a constant force (quadratic hit-time
    equation, `gsl_poly_solve_quadratic`) are part C, PropsR/C08Force.lean; their composition with this loop is not covered
  * triangulated / oblique / STL walls; which triangle of a face a cell knows
  * grazing, edge and corner decisions by `c_wt_dist_eps` in DOUBLE arithmetic (the model's comparisons are exact;
    `delta` only enlarges the faces), rounding of `hit_pos`, of `eps`-displaced positions and of `p->dt -= t`
  * `ReflectorStochastic` in the loop (its law is in PropsR/C08.lean)
-/
import Sympler.CollideStepLemmas

namespace Sympler.Props.C08
open Sympler.Collide

/-- Remaining time strictly decreases with every hit (and stays non-negative): `p->dt -= t_travelled` with
`0 < t_travelled ≤ p->dt`. -/
theorem C08_time_decreases (c : Cfg) (cell : I3) (st : LoopSt) (hit : Hit)
    (h : checkForHit c (walls c cell) st.r st.v st.dtLeft = some hit) :
    0 < hit.t ∧ hit.t ≤ st.dtLeft ∧ (applyHit c st hit).dtLeft = st.dtLeft - hit.t ∧
    (applyHit c st hit).dtLeft < st.dtLeft ∧ 0 ≤ (applyHit c st hit).dtLeft :=
  applyHit_dt_lt h

/-- The loop of `doCollision` with `fuel` passes left either reports "too many collisions" or stops in a state
without further hit after at most `fuel − 1` hits (99 for the C++ bound of 100 passes); time never increases. -/
theorem C08_loop_terminates (c : Cfg) (cell : I3) (fuel : Nat) (st : LoopSt) :
    doCollision c cell fuel st = .tooManyHits ∨
    ∃ st', doCollision c cell fuel st = .done st' ∧
      (∃ l, st'.trace = st.trace ++ l) ∧
      checkForHit c (walls c cell) st'.r st'.v st'.dtLeft = none ∧
      st'.trace.length + 1 ≤ st.trace.length + fuel ∧ st'.dtLeft ≤ st.dtLeft := by
  cases h : doCollision c cell fuel st with
  | tooManyHits => exact Or.inl rfl
  | done st' => exact Or.inr ⟨st', rfl, doCollision_done fuel st st' h⟩

/-- The hit chosen by `checkForHit` is a real hit of one of the checked walls and is the EARLIEST of all of them. -/
theorem C08_earliest (c : Cfg) (ws : List Wall) (r v : V3) (dtl : Rat) (hit : Hit)
    (h : checkForHit c ws r v dtl = some hit) :
    hit.wall ∈ ws ∧ wallHit c hit.wall r v dtl = some (hit.t, hit.pos) ∧
    ∀ w ∈ ws, ∀ t p, wallHit c w r v dtl = some (t, p) → hit.t ≤ t :=
  checkForHit_some h

/-- `none` means that no checked wall reports a hit. -/
theorem C08_earliest_none (c : Cfg) (ws : List Wall) (r v : V3) (dtl : Rat)
    (h : checkForHit c ws r v dtl = none) : ∀ w ∈ ws, wallHit c w r v dtl = none :=
  checkForHit_none h

/-- Under the loop invariant the chosen hit position lies in the CLOSED box in every non-periodic direction: the chosen hit
happens at the earliest crossing of any face plane, so `NoEdge` only excludes hits exactly on an edge or corner. -/
theorem C08_hit_in_closed_box (c : Cfg) (ok : CfgOK c) (dt : Rat) (p0 : PState) (st : LoopSt)
    (inv : LInv c dt p0 st) (cell : CellOK c p0) (sp : SpeedOK c dt p0.v) (hk : st.trace.length ≤ 100)
    (hit : Hit) (hh : checkForHit c (walls c p0.cell) st.r st.v st.dtLeft = some hit) :
    ∀ k, c.per k = false → 0 ≤ hit.pos k ∧ hit.pos k ≤ c.box k := by
  obtain ⟨hmem, hw, hearly⟩ := checkForHit_some hh
  obtain ⟨ht, h0, h1, hpos, _⟩ := wallHit_eq_some_iff.mp hw
  have hc := candTime_eq_some_iff.mpr ⟨per_of_mem_walls hmem, ht, h0, h1⟩
  obtain ⟨wm, tm, hmem', hhit', hmin, hbox⟩ := exists_hit_of_cand ok inv cell sp hk hc
  rw [hpos, Rat.le_antisymm (hearly wm hmem' _ _ hhit') (hmin _ _ hc)]
  exact hbox

/-- CONFINEMENT, one step, one particle.  Hypotheses:
  `CfgOK c`     box sizes > 0, ≥ 1 cell per direction, `eps > 0`, `delta ≥ 0`, `geps ≥ 0`;
  `0 ≤ dt`;
  `Good c p`    the particle is strictly between the walls in every non-periodic direction and lies (up to `geps`)
                in the existing cell that holds it;
  `SpeedOK`     `|v_d| dt + 100 eps + geps < cell width_d` for every direction `d` (no PARTICLEFLEWTOOFAR; in
                particular `eps` is far smaller than the distance to the opposite wall);
  `NoEdge`      no hit of this step is exactly on an edge/corner of the box (see `C08_edge_witness`).
Conclusion: the step raises the "more than 100 collisions" error, or keeps the particle (`ok`), which is again `Good`
(strictly between the walls, consistent cell), still `SpeedOK`, every velocity component kept up to sign, ≤ 99 hits. -/
theorem C08_confined_cuboid (c : Cfg) (ok : CfgOK c) (dt : Rat) (hdt : 0 ≤ dt) (p : PState)
    (g : Good c p) (sp : SpeedOK c dt p.v) (hne : ∀ h ∈ (step c dt p).trace, NoEdge c h) :
    step c dt p = .tooManyHits ∨
    ∃ p', step c dt p = .ok p' (step c dt p).trace ∧ Good c p' ∧ SpeedOK c dt p'.v ∧
      (∀ d, p'.v d = p.v d ∨ p'.v d = - p.v d) ∧ (step c dt p).trace.length ≤ 99 := by
  cases hdc : doCollision c p.cell 100 ⟨p.r, p.v, dt, []⟩ with
  | tooManyHits => left; unfold step; rw [hdc]
  | done st =>
    right
    rw [step_trace hdc] at hne ⊢
    -- the loop invariant holds when the loop ends, without a further hit: the free flight for the rest of the step stays inside
    have inv := doCollision_inv ok (eps_lt_box ok hdt sp) 100 _ _ (linv_init hdt g.1) hdc hne
    obtain ⟨_, hno, hlen, _⟩ := doCollision_done _ _ _ hdc
    simp only [List.length_nil] at hlen
    have hk : st.trace.length ≤ 100 := by omega
    have ins := nohit_inside ok inv g.2 sp hk (checkForHit_none hno)
    obtain ⟨p', hp', hv', hin', hcell'⟩ :=
      checkNewPosition_ok ok g.2 ins (inv.reach ok sp hk inv.dt_nonneg Rat.le_refl) st.v st.trace
    refine ⟨p', ?_, ⟨hin', hcell'⟩, hv' ▸ speedOK_of_sign sp inv.vsign, hv' ▸ inv.vsign, by omega⟩
    unfold step; rw [hdc]; exact hp'

/-- PARTICLE NUMBER, one step, all particles: error, or the same number of particles, all `Good` again. -/
theorem C08_count (c : Cfg) (ok : CfgOK c) (dt : Rat) (hdt : 0 ≤ dt) (ps : List PState)
    (hall : AllOK c dt ps) (hne : ∀ p ∈ ps, NoEdgeStep c dt p) :
    stepAll c dt ps = .error .tooManyHits ∨
    ∃ ps', stepAll c dt ps = .ok ps' ∧ ps'.length = ps.length ∧ AllOK c dt ps' := by
  induction ps with
  | nil => exact Or.inr ⟨[], rfl, rfl, fun p hp => nomatch hp⟩
  | cons p ps ih =>
    obtain ⟨hp, hps⟩ := List.forall_mem_cons.mp hall
    obtain ⟨hnp, hnps⟩ := List.forall_mem_cons.mp hne
    unfold stepAll
    rcases C08_confined_cuboid c ok dt hdt p hp.1 hp.2 hnp with h | ⟨p', h, hg, hs, _⟩
    · rw [h]; exact Or.inl rfl
    · rw [h]
      rcases ih hps hnps with h2 | ⟨ps', h2, hl, ha⟩
      · rw [h2]; exact Or.inl rfl
      · rw [h2]; exact Or.inr ⟨p' :: ps', rfl, by simp [hl], List.forall_mem_cons.mpr ⟨⟨hg, hs⟩, ha⟩⟩

/-- PARTICLE NUMBER over any number `n` of steps (induction over steps): no particle is erased, none flies too far. -/
theorem C08_count_run (c : Cfg) (ok : CfgOK c) (dt : Rat) (hdt : 0 ≤ dt) (n : Nat) (ps : List PState)
    (hall : AllOK c dt ps) (hne : NoEdgeRun c dt n ps) :
    run c dt n ps = .error .tooManyHits ∨
    ∃ ps', run c dt n ps = .ok ps' ∧ ps'.length = ps.length ∧ AllOK c dt ps' := by
  induction n generalizing ps with
  | zero => exact Or.inr ⟨ps, rfl, rfl, hall⟩
  | succ n ih =>
    unfold run
    rcases C08_count c ok dt hdt ps hall hne.1 with h | ⟨ps', h, hl, ha⟩
    · rw [h]; exact Or.inl rfl
    · rw [h]
      rcases ih ps' ha (hne.2 ps' h) with h2 | ⟨ps'', h2, hl2, ha2⟩
      · exact Or.inl h2
      · exact Or.inr ⟨ps'', h2, hl2.trans hl, ha2⟩

/-! ### concrete scenarios: non-vacuity and witnesses -/

/-- box 4×4×4, 4×4×4 cells, walls in x and y, periodic in z, `eps = geps = 1e-10`, `delta = 1e-5` -/
def exCfg (rf : Refl) : Cfg :=
  ⟨V3.mk 4 4 4, fun _ => 4, fun k => k = 2, 1 / 10000000000, 1 / 100000, 1 / 10000000000, rf⟩

theorem exCfg_ok (rf : Refl) : CfgOK (exCfg rf) := by
  cases rf <;> exact ⟨by decide +kernel, by decide +kernel, by decide +kernel, by decide +kernel, by decide +kernel⟩

/-- oblique flight into the corner region, two reflections (x wall, then y wall), no edge hit -/
def exP : PState := ⟨V3.mk (1/4) (1/2) 2, V3.mk (-1) (-1) (1/4), fun k => match k with | 0 => 0 | 1 => 0 | 2 => 2⟩

theorem exP_good (rf : Refl) : Good (exCfg rf) exP := by
  cases rf <;> unfold Good InsideW CellOK <;> decide +kernel

theorem exP_speed (rf : Refl) : SpeedOK (exCfg rf) (3/4) exP.v := by
  cases rf <;> unfold SpeedOK <;> decide +kernel

/-- non-vacuity of `C08_confined_cuboid`: all hypotheses hold for `exCfg .mirror`, `exP`, `dt = 3/4`, and the step
really performs two reflections and keeps the particle -/
example : (step (exCfg .mirror) (3/4) exP).trace.all (noEdgeB (exCfg .mirror)) = true ∧
    (step (exCfg .mirror) (3/4) exP).trace.length = 2 ∧ (step (exCfg .mirror) (3/4) exP).isOk = true := by
  decide +kernel

example : ∀ h ∈ (step (exCfg .mirror) (3/4) exP).trace, NoEdge (exCfg .mirror) h := by
  intro h hh
  have : (step (exCfg .mirror) (3/4) exP).trace.all (noEdgeB (exCfg .mirror)) = true := by decide +kernel
  exact (noEdgeB_iff _ h).mp (List.all_eq_true.mp this h hh)

/-- WITNESS (finding `C08-edge-hit-lost`): `ReflectorMirror`, particle at (1/2, 1/2, 2) with velocity (−1, −1, 0),
`dt = 3/4` (displacement 3/4 of a cell).  It reaches the edge x = y = 0 at t = 1/2.  The x-wall is first in the list
and wins the tie; after the reflection the particle sits exactly in the plane of the y-wall (`t = 0`, rejected because
`t > c_wt_time_eps` fails), flies through it and is ERASED by `checkNewPosition` (no outlet): all hypotheses of
`C08_confined_cuboid` except `NoEdge` hold, and the particle is lost. -/
def edgeP : PState := ⟨V3.mk (1/2) (1/2) 2, V3.mk (-1) (-1) 0, fun k => match k with | 0 => 0 | 1 => 0 | 2 => 2⟩

theorem C08_edge_witness :
    (step (exCfg .mirror) (3/4) edgeP).isLost = true ∧
    (step (exCfg .mirror) (3/4) edgeP).trace.all (noEdgeB (exCfg .mirror)) = false := by
  decide +kernel

theorem edgeP_hyps : Good (exCfg .mirror) edgeP ∧ SpeedOK (exCfg .mirror) (3/4) edgeP.v := by
  unfold Good InsideW CellOK SpeedOK; decide +kernel

/-- the same edge hit with `ReflectorBounceBack` is harmless (the reversed velocity leads away from both walls) -/
theorem C08_edge_bounce_back_ok : (step (exCfg .bounceBack) (3/4) edgeP).isOk = true := by
  decide +kernel

/-- WITNESS for the error branch: bounce-back on a chord of length ≈ 2⁻⁹·√2 across the corner: the particle
oscillates between the two walls, more than 100 collisions within a displacement of 1/2 cell. -/
def chordP : PState := ⟨V3.mk (1/1024) (1/1024) 2, V3.mk (-1) 1 0, fun k => match k with | 0 => 0 | 1 => 0 | 2 => 2⟩

theorem C08_corner_chord_witness :
    (step (exCfg .bounceBack) (1/2) chordP).isTooManyHits = true := by
  decide +kernel

end Sympler.Props.C08
