import Sympler.StagesLemmas

/-!
# C06 — derived symbols are evaluated after all they read, whatever the input order

Model: `Sympler/Stages.lean` (`Symbol::findStage` / `findStageForSymbolName` /
`checkOverwriteForStageFinding`, `Simulation::setSymbolStages`, the per-stage tables of
`sortStages` and the stage loop of `Controller::runSymbols`).  Helper lemmas:
`Sympler/StagesLemmas.lean`.

All theorems are about ARBITRARY symbol lists with distinct ids, arbitrary sweep bounds `B` and
arbitrary permutations (`List.Perm`) of the module order.
-/
namespace Sympler.Stages

/-! ## Example systems for the non-vacuity checks -/

/-- root `1`; diamond `1 → {2,3} → 4`; name `13` has the two producers `4` and `5`; chain `… → 6`;
module `7` overwrites name `10` of module `1`. -/
def exSyms : List Sym :=
  [⟨1, [10], [], false⟩, ⟨2, [11], [10], false⟩, ⟨3, [12], [10], false⟩,
   ⟨4, [13], [11, 12], false⟩, ⟨5, [13], [], false⟩, ⟨6, [14], [13], false⟩,
   ⟨7, [10], [], true⟩]

def exSymsRev : List Sym := exSyms.reverse

def exCyc : List Sym := [⟨1, [10], [11], false⟩, ⟨2, [11], [10], false⟩, ⟨3, [12], [10], false⟩]

/-- Diamond + chain, every name with a single producer. -/
def exVal : List Sym :=
  [⟨6, [14], [13], false⟩, ⟨4, [13], [11, 12], false⟩, ⟨1, [10], [], false⟩,
   ⟨2, [11], [10, 20], false⟩, ⟨3, [12], [10], false⟩]

def exChain : List Sym := [⟨1, [10], [], false⟩, ⟨2, [11], [10], false⟩, ⟨3, [12], [11], false⟩]

def stagesOf (r : Except String (Nat → Option Nat)) (syms : List Sym) : Option (List (Option Nat)) :=
  match r with
  | .ok st => some (syms.map (fun s => st s.id))
  | .error _ => none

def scheduleOf (r : Except String (Nat → Option Nat)) (syms : List Sym) : Option (List Nat) :=
  match r with
  | .ok st => some (schedule syms st)
  | .error _ => none

def valuesOf {V : Type} (r : Except String (Nat → Option Nat)) (f : Sym → (Nat → V) → Nat → V)
    (syms : List Sym) (σ₀ : Nat → V) (names : List Nat) : Option (List V) :=
  match r with
  | .ok st => some (names.map (evalSchedule f syms st σ₀))
  | .error _ => none

theorem exSyms_distinct : Distinct exSyms := by unfold Distinct; decide
theorem exVal_distinct : Distinct exVal := by unfold Distinct; decide
theorem exCyc_distinct : Distinct exCyc := by unfold Distinct; decide

theorem ok_of_isOk {r : Except String (Nat → Option Nat)} (h : r.isOk = true) : ∃ st, r = .ok st := by
  cases r with
  | ok st => exact ⟨st, rfl⟩
  | error e => cases h

theorem exSyms_ok : ∃ st, assign 20 exSyms = .ok st := ok_of_isOk (by decide +kernel)
theorem exSymsRev_ok : ∃ st, assign 20 exSymsRev = .ok st := ok_of_isOk (by decide +kernel)
theorem exVal_ok : ∃ st, assign 20 exVal = .ok st := ok_of_isOk (by decide +kernel)

/-! ## stages and schedule -/

/-- If the stage assignment succeeds then every module has a stage, every module is staged
strictly after every OTHER module producing a name it walks, and the stage is `0` exactly if no
other module produces any walked name. -/
theorem C06_stage_correct (syms : List Sym) (hd : Distinct syms) (B : Nat)
    (st : Nat → Option Nat) (h : assign B syms = .ok st) :
    (∀ S ∈ syms, ∃ k, st S.id = some k) ∧
    (∀ S ∈ syms, ∀ n ∈ S.walked, ∀ P ∈ syms, P ≠ S → n ∈ P.produces →
        ∃ j k, st P.id = some j ∧ st S.id = some k ∧ j < k) ∧
    (∀ S ∈ syms, (st S.id = some 0 ↔
        ∀ n ∈ S.walked, ∀ P ∈ syms, P ≠ S → n ∉ P.produces)) := by
  obtain ⟨hg, ht⟩ := assign_good hd h
  refine ⟨ht, ?_, ?_⟩
  · intro S hS n hn P hP hne hnP
    obtain ⟨k, hk⟩ := ht S hS
    obtain ⟨j, hj, hlt⟩ := (hg S hS k hk).1 P (hd.dep hS hP hne hn hnP)
    exact ⟨j, k, hj, hk, hlt⟩
  · intro S hS
    constructor
    · intro h0 n hn P hP hne hnP
      obtain ⟨j, _, hlt⟩ := (hg S hS 0 h0).1 P (hd.dep hS hP hne hn hnP)
      cases hlt
    · intro hno
      obtain ⟨k, hk⟩ := ht S hS
      rcases (hg S hS k hk).2 with h0 | ⟨P, ⟨hP, hid, n, hn, hnP⟩, _⟩
      · rw [hk, h0]
      · exact absurd hnP (hno n hn P hP (fun he => hid (by rw [he])))

/-- Non-vacuity: the example (diamond, chain, 2-producer name, overwriter) in two orders. -/
example : stagesOf (assign 20 exSyms) exSyms
    = some [some 0, some 2, some 2, some 3, some 0, some 4, some 1] := by decide +kernel
example : stagesOf (assign 20 exSymsRev) exSyms
    = some [some 0, some 2, some 2, some 3, some 0, some 4, some 1] := by decide +kernel

/-- Execution order: in `scheduleSyms` (whose ids are `schedule`) every module occurs exactly once
(it is a permutation of the input) and comes after all other producers of what it walks. -/
theorem C06_schedule_sound (syms : List Sym) (hd : Distinct syms) (B : Nat)
    (st : Nat → Option Nat) (h : assign B syms = .ok st) :
    (scheduleSyms syms st).Perm syms ∧
    ∀ pre S post, scheduleSyms syms st = pre ++ S :: post →
      ∀ n ∈ S.walked, ∀ P ∈ syms, P ≠ S → n ∈ P.produces → P ∈ pre := by
  obtain ⟨hg, ht⟩ := assign_good hd h
  have hperm := scheduleSyms_perm hd ht
  refine ⟨hperm, ?_⟩
  intro pre S post heq n hn P hP hne hnP
  have hS : S ∈ syms := hperm.mem_iff.1 (by rw [heq]; simp)
  have hPin : P ∈ pre ++ S :: post := by rw [← heq]; exact hperm.mem_iff.2 hP
  rcases List.mem_append.1 hPin with hpre | hrest
  · exact hpre
  · -- `P` is not `S`, and not behind `S`: the order is sorted by stage
    have hpost := (List.mem_cons.1 hrest).resolve_left hne
    have hs := scheduleSyms_sorted syms st
    rw [heq, List.pairwise_append] at hs
    exact absurd (hd.dep hS hP hne hn hnP)
      (hg.not_dep hS (List.rel_of_pairwise_cons hs.2.1 hpost))

/-- `C06_schedule_sound` on the level of ids, i.e. for the list `schedule` that the driver prints. -/
theorem C06_schedule_sound_ids (syms : List Sym) (hd : Distinct syms) (B : Nat)
    (st : Nat → Option Nat) (h : assign B syms = .ok st) :
    (schedule syms st).Perm (syms.map (·.id)) ∧
    ∀ S ∈ syms, ∀ pre post, schedule syms st = pre ++ S.id :: post →
      ∀ n ∈ S.walked, ∀ P ∈ syms, P ≠ S → n ∈ P.produces → P.id ∈ pre := by
  obtain ⟨hperm, hs⟩ := C06_schedule_sound syms hd B st h
  refine ⟨hperm.map _, ?_⟩
  intro S hS pre post heq n hn P hP hne hnP
  unfold schedule at heq
  obtain ⟨l1, l2, h12, hl1, hl2⟩ := List.map_eq_append_iff.1 heq
  obtain ⟨a, l3, hl2', ha, _⟩ := List.map_eq_cons_iff.1 hl2
  have haS : a = S := by
    apply hd.eq_of_id _ hS ha
    exact hperm.mem_iff.1 (by rw [h12, hl2']; simp)
  subst haS
  rw [hl2'] at h12
  rw [← hl1]
  exact List.mem_map_of_mem (hs l1 a l3 h12 n hn P hP hne hnP)

example : scheduleOf (assign 20 exSyms) exSyms = some [1, 5, 7, 2, 3, 4, 6] := by decide +kernel
example : scheduleOf (assign 20 exSymsRev) exSymsRev = some [5, 1, 7, 3, 2, 4, 6] := by decide +kernel

/-! ## the stages are the longest-path levels, for every input order -/

/-- The stage map satisfies the longest-path recursion:
`st S = 0` if no other module produces a walked name, else `1 + max` over those producers.
(`IsLevel` spells the recursion out without `max`; `levelOf` is the closed form
`fold max 0 (stage P + 1)` over the visited producers.) -/
theorem C06_stage_level (syms : List Sym) (hd : Distinct syms) (B : Nat)
    (st : Nat → Option Nat) (h : assign B syms = .ok st) :
    ∀ S ∈ syms, st S.id = some (levelOf syms st S) ∧ IsLevel syms st S (levelOf syms st S) := by
  obtain ⟨hg, ht⟩ := assign_good hd h
  intro S hS
  obtain ⟨k, hk⟩ := ht S hS
  have := good_levelOf hg hS hk
  subst this
  exact ⟨hk, hg S hS _ hk⟩

/-- The recursion has at most one solution. -/
theorem C06_level_unique (syms : List Sym) (st st' : Nat → Option Nat)
    (h : ∀ S ∈ syms, ∃ k, st S.id = some k ∧ IsLevel syms st S k)
    (h' : ∀ S ∈ syms, ∃ k, st' S.id = some k ∧ IsLevel syms st' S k) :
    ∀ S ∈ syms, st S.id = st' S.id := by
  have conv : ∀ {st : Nat → Option Nat},
      (∀ S ∈ syms, ∃ k, st S.id = some k ∧ IsLevel syms st S k) → Good syms st ∧ Total syms st :=
    fun h => ⟨fun S hS k hk => let ⟨k', hk', hl⟩ := h S hS; Option.some.inj (hk.symm.trans hk') ▸ hl,
      fun S hS => let ⟨k, hk, _⟩ := h S hS; ⟨k, hk⟩⟩
  exact good_unique (conv h).1 (conv h).2 (conv h').1 (conv h').2

/-- Input-order independence of the stages: for every permutation of the module list and every
pair of bounds, two successful assignments give every module the same stage. -/
theorem C06_stage_unique (syms syms' : List Sym) (hp : syms'.Perm syms) (hd : Distinct syms)
    (B B' : Nat) (st st' : Nat → Option Nat)
    (h : assign B syms = .ok st) (h' : assign B' syms' = .ok st') :
    ∀ S ∈ syms, st S.id = st' S.id := by
  obtain ⟨hg, ht⟩ := assign_good hd h
  obtain ⟨hg', ht'⟩ := assign_good (hd.perm hp.symm) h'
  exact good_unique hg ht (hg'.perm hp) (ht'.perm hp)

example : exSymsRev.Perm exSyms := List.reverse_perm _

/-! ## cycles -/

/-- Every module that lies on a dependency cycle, or reaches one, is undetermined after any number
of sweeps. -/
theorem C06_cycle_undetermined (syms : List Sym) (hd : Distinct syms) (S T : Sym)
    (hcyc : Reach syms S S) (hT : T ∈ syms) (hTS : T = S ∨ Reach syms T S) :
    ∀ n, sweepN syms n T.id = none :=
  fun n => sweepN_closed hd (closed_reachCycle syms) n T ⟨hT, S, hcyc, hTS⟩

/-- A cyclic dependency is reported as the `stageIterations` error for every bound `B`; never a
stage map. -/
theorem C06_cycle_error (syms : List Sym) (hd : Distinct syms) (S : Sym)
    (hcyc : Reach syms S S) (B : Nat) : assign B syms = .error "stageIterations" :=
  assign_error_of_closed hd (closed_reachCycle syms) (S := S)
    ⟨reach_mem hcyc, S, hcyc, Or.inl rfl⟩ B

/-- Special case of `C06_cycle_error`: two different overwriting modules of the same name wait for each other. -/
theorem C06_two_overwriters_error (syms : List Sym) (hd : Distinct syms) (S T : Sym)
    (hS : S ∈ syms) (hT : T ∈ syms) (hne : S.id ≠ T.id) (hoS : S.overwrite = true)
    (hoT : T.overwrite = true) (n : Nat) (hnS : n ∈ S.produces) (hnT : n ∈ T.produces) (B : Nat) :
    assign B syms = .error "stageIterations" := by
  have d1 : Dep syms S T := ⟨hT, fun h => hne h.symm, n, mem_walked_of_mem_produces hoS hnS, hnT⟩
  have d2 : Dep syms T S := ⟨hS, hne, n, mem_walked_of_mem_produces hoT hnT, hnS⟩
  exact C06_cycle_error syms hd S (Relation.TransGen.tail (Relation.TransGen.single d1) d2) B

/-- Non-vacuity: `exCyc` has the cycle `1 → 2 → 1`, module `3` reaches it. -/
example : Reach exCyc ⟨1, [10], [11], false⟩ ⟨1, [10], [11], false⟩ :=
  Relation.TransGen.tail
    (Relation.TransGen.single (b := ⟨2, [11], [10], false⟩)
      ⟨by decide, by decide, 11, by decide, by decide⟩)
    ⟨by decide, by decide, 10, by decide, by decide⟩
example : stagesOf (assign 20 exCyc) exCyc = none := by decide +kernel
example : exCyc.map (fun s => sweepN exCyc 5 s.id) = [none, none, none] := by decide +kernel

/-! ## termination -/

/-- Acyclic (a rank function strictly decreasing along dependencies exists) and more sweeps allowed
than the largest rank: the assignment succeeds FOR EVERY ORDER of the module list.
With `rk` = the level itself this is `B ≥ depth + 1` (`C06_terminates_depth`). -/
theorem C06_terminates (syms : List Sym) (hd : Distinct syms) (rk : Nat → Nat)
    (hrk : ∀ S ∈ syms, ∀ P, Dep syms S P → rk P.id < rk S.id)
    (B : Nat) (hB1 : 1 ≤ B) (hB : ∀ S ∈ syms, rk S.id < B)
    (syms' : List Sym) (hp : syms'.Perm syms) : ∃ st, assign B syms' = .ok st := by
  obtain ⟨r, hr⟩ := assignN_terminates (hd.perm hp.symm) rk
    (fun S hS P hP => hrk S (hp.mem_iff.1 hS) P ((Dep.perm hp).1 hP)) hB1
    (fun S hS => hB S (hp.mem_iff.1 hS))
  exact ⟨r.1, assign_of_assignN hr⟩

theorem terminates_of_good {syms : List Sym} (hd : Distinct syms) {st : Nat → Option Nat}
    (hg : Good syms st) (ht : Total syms st) {B : Nat} (hB1 : 1 ≤ B)
    (hB : ∀ S ∈ syms, ∀ k, st S.id = some k → k < B) (syms' : List Sym) (hp : syms'.Perm syms) :
    ∃ st', assign B syms' = .ok st' :=
  C06_terminates syms hd (fun i => (st i).getD 0) (good_rank hg ht) B hB1 (good_rank_lt ht hB) syms' hp

/-- Acyclic and `B ≥ number of modules` (and `B ≥ 1`, since `stageIterations = 0` always throws):
success for every order. -/
theorem C06_terminates_length (syms : List Sym) (hd : Distinct syms) (rk : Nat → Nat)
    (hrk : ∀ S ∈ syms, ∀ P, Dep syms S P → rk P.id < rk S.id)
    (B : Nat) (hB1 : 1 ≤ B) (hB : syms.length ≤ B)
    (syms' : List Sym) (hp : syms'.Perm syms) : ∃ st, assign B syms' = .ok st := by
  -- some bound will do: one above the largest rank
  obtain ⟨st, hst⟩ := C06_terminates syms hd rk hrk (maxStage syms (fun i => some (rk i)) + 1)
    (Nat.succ_pos _) (fun S hS => Nat.lt_succ_of_le (le_maxStage hS rfl)) syms (List.Perm.refl _)
  obtain ⟨hg, ht⟩ := assign_good hd hst
  exact terminates_of_good hd hg ht hB1
    (fun S hS k hk => Nat.lt_of_lt_of_le (good_stage_lt_length hg hS hk) hB) syms' hp

/-- Sharp form: once some order succeeds with stages `st`, every order succeeds with every bound
`B ≥ depth + 1`, `depth = maxStage syms st`. -/
theorem C06_terminates_depth (syms : List Sym) (hd : Distinct syms) (B₀ : Nat)
    (st : Nat → Option Nat) (h : assign B₀ syms = .ok st)
    (B : Nat) (hB : maxStage syms st + 1 ≤ B)
    (syms' : List Sym) (hp : syms'.Perm syms) : ∃ st', assign B syms' = .ok st' := by
  obtain ⟨hg, ht⟩ := assign_good hd h
  exact terminates_of_good hd hg ht (Nat.le_trans (Nat.succ_pos _) hB)
    (fun S hS k hk => Nat.lt_of_le_of_lt (le_maxStage hS hk) hB) syms' hp

/-- The number of sweeps used is at most `depth + 1`, at least `1`. -/
theorem C06_sweeps_le_depth (syms : List Sym) (hd : Distinct syms) (B : Nat)
    (st : Nat → Option Nat) (n : Nat) (h : assignN B syms = .ok (st, n)) :
    1 ≤ n ∧ n ≤ maxStage syms st + 1 ∧ n ≤ B := by
  obtain ⟨n', _, hB, hf, hfirst, hr⟩ := iter_ok_first (m := 0) h
  cases hr
  refine ⟨by omega, ?_, by omega⟩
  have ht : Total syms (sweepN syms (n' + 1)) := (sweep_fin hd _).1 hf
  -- the stages are a rank function, so sweep number `depth + 1` reports `finished`,
  -- and sweep `n' + 1` is the first that does
  have hdet : Total syms (sweepN syms (maxStage syms (sweepN syms (n' + 1)) + 1)) := fun S hS =>
    sweepN_det (fun i => (sweepN syms (n' + 1) i).getD 0) (good_rank (sweepN_good hd _) ht) _ S hS
      (good_rank_lt ht (fun S hS k hk => Nat.lt_succ_of_le (le_maxStage hS hk)) S hS)
  rcases Nat.lt_or_ge (maxStage syms (sweepN syms (n' + 1))) n' with hlt | hge
  · have := (sweep_fin hd _).2 hdet
    rw [hfirst _ (Nat.zero_le _) hlt] at this; cases this
  · omega

/-- Non-vacuity of the rank hypothesis. -/
example : ∃ rk : Nat → Nat, (∀ S ∈ exSyms, ∀ P, Dep exSyms S P → rk P.id < rk S.id) ∧
    ∀ S ∈ exSyms, rk S.id < 7 := by
  obtain ⟨st, hst⟩ := exSyms_ok
  obtain ⟨hg, ht⟩ := assign_good exSyms_distinct hst
  exact ⟨fun i => (st i).getD 0, good_rank hg ht,
    good_rank_lt ht fun S hS k hk => good_stage_lt_length hg hS hk⟩

/-- The remaining case: acyclic, but `depth + 1 > B`.  Then acceptance DOES depend on the order of
the modules in the input: the chain `1 → 2 → 3` (depth 2) with `stageIterations = 2` is accepted
when written producers-first (one sweep suffices) and rejected with the `stageIterations` error
when written consumers-first (three sweeps needed).  By `C06_stage_correct` the outcome is the
error, never a wrong stage map. -/
theorem C06_order_dependent_acceptance_witness :
    stagesOf (assign 2 exChain) exChain = some [some 0, some 1, some 2] ∧
    stagesOf (assign 2 exChain.reverse) exChain = none ∧
    stagesOf (assign 3 exChain.reverse) exChain = some [some 0, some 1, some 2] := by decide +kernel

/-! ## values -/

/-- Abstract evaluation.  Each module `S` computes its produced names by `f S` from the current
values of the names in `S.uses` (`Local f`).  Hypotheses, explicit: every name has a single
producer (`SingleProducer`; in particular nobody overwrites somebody else's symbol) and no module
reads a name it produces itself (`NoSelfUse`).  The store `σ₀` before the step is ARBITRARY (stale
values of the previous step).  Then, for every permutation `syms'` of the module list with
successful stage assignment and any other start store `σ₀'` that agrees with `σ₀` on the names NOT
produced by any module (positions, velocities, …):

1. the final store solves all equations `σ n = f_P σ n` (`n` produced by `P`),
2. non-produced names are untouched,
3. the two final stores are equal — in particular independent of the stale values,
4. the final store is THE solution: any store solving the equations and agreeing with `σ₀` off the
   produced names equals it. -/
theorem C06_values_order_independent {V : Type} (f : Sym → (Nat → V) → Nat → V) (hf : Local f)
    (syms syms' : List Sym) (hp : syms'.Perm syms) (hd : Distinct syms)
    (hsp : SingleProducer syms) (hns : NoSelfUse syms)
    (B B' : Nat) (st st' : Nat → Option Nat)
    (h : assign B syms = .ok st) (h' : assign B' syms' = .ok st')
    (σ₀ σ₀' : Nat → V) (h0 : ∀ n, ¬ Produced syms n → σ₀ n = σ₀' n) :
    Solves f syms (evalSchedule f syms st σ₀) ∧
    (∀ n, ¬ Produced syms n → evalSchedule f syms st σ₀ n = σ₀ n) ∧
    (∀ n, evalSchedule f syms st σ₀ n = evalSchedule f syms' st' σ₀' n) ∧
    (∀ τ, Solves f syms τ → (∀ n, ¬ Produced syms n → τ n = σ₀ n) →
      ∀ n, τ n = evalSchedule f syms st σ₀ n) := by
  obtain ⟨hg, ht⟩ := assign_good hd h
  have hd' := hd.perm hp.symm
  obtain ⟨hg', ht'⟩ := assign_good hd' h'
  have hmem := fun S => (scheduleSyms_perm hd ht).mem_iff (a := S)
  have hsorted := scheduleSyms_sorted syms st
  obtain ⟨s1, s2⟩ := evalOrder_spec f hf hd hsp hns hg _ hmem hsorted σ₀
  refine ⟨s1, s2, ?_, fun τ hτ hτ0 => ?_⟩
  · exact evalOrder_unique f hf hd hsp hns hg ht (hg'.perm hp) hmem
      (fun S => (scheduleSyms_perm hd' ht').mem_iff.trans hp.mem_iff) hsorted
      (scheduleSyms_sorted syms' st') h0
  · exact solves_unique f hf hns hg ht hd hτ s1 fun n hn => by rw [hτ0 n hn]; exact (s2 n hn).symm

/-- The order INSIDE a stage is irrelevant too: any execution order that contains exactly the
registered modules and is sorted by stage gives the same store as `schedule`.  (`runSymbols` runs,
inside one stage, particle caches first, then triplet/quintet calculators, then per colour pair the
bonded and the non-bonded pair calculators — not the registration order.) -/
theorem C06_values_any_stage_order {V : Type} (f : Sym → (Nat → V) → Nat → V) (hf : Local f)
    (syms : List Sym) (hd : Distinct syms) (hsp : SingleProducer syms) (hns : NoSelfUse syms)
    (B : Nat) (st : Nat → Option Nat) (h : assign B syms = .ok st)
    (ord : List Sym) (hmem : ∀ S, S ∈ ord ↔ S ∈ syms)
    (hsorted : ord.Pairwise (fun a b => ∃ i j, st a.id = some i ∧ st b.id = some j ∧ i ≤ j))
    (σ₀ : Nat → V) : ∀ n, evalOrder f ord σ₀ n = evalSchedule f syms st σ₀ n := by
  obtain ⟨hg, ht⟩ := assign_good hd h
  exact evalOrder_unique f hf hd hsp hns hg ht hg hmem
    (fun S => (scheduleSyms_perm hd ht).mem_iff) hsorted (scheduleSyms_sorted syms st) fun _ _ => rfl

/-- Example right-hand sides: `value(n) = n + Σ values of the used names`. -/
def exF : Sym → (Nat → Nat) → Nat → Nat := fun s σ n => n + (s.uses.map σ).sum

theorem exF_local : Local exF := by
  intro s σ σ' hag n
  unfold exF
  congr 2
  exact List.map_congr_left hag

theorem exVal_single : SingleProducer exVal := by unfold SingleProducer; decide +kernel
theorem exVal_noSelfUse : NoSelfUse exVal := by unfold NoSelfUse; decide

/-- Non-vacuity: all hypotheses hold for `exVal`, and two different stale stores (`0` resp. `1000`
on the produced names `10…14`, both `5` on the external name `20`) give the same values
`10, 11+10+5, 12+10, 13+26+22, 14+61`. -/
example : valuesOf (assign 20 exVal) exF exVal (fun n => if n = 20 then 5 else 0)
    [10, 11, 12, 13, 14] = some [10, 26, 22, 61, 75] := by decide +kernel
example : valuesOf (assign 20 exVal.reverse) exF exVal.reverse
    (fun n => if n = 20 then 5 else 1000) [10, 11, 12, 13, 14] = some [10, 26, 22, 61, 75] := by
  decide +kernel

end Sympler.Stages
