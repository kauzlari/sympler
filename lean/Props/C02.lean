import Sympler.VerletLemmas

/-!
Property C02 — "Verlet neighbour list never lacks a pair inside the interaction cutoff".

Decision logic and refresh arithmetic of `VerletCreator::createDistances`
(/repo/source/src/basic/verlet_creator.cpp).  Everything is stated about the GENERATED definitions
`Sympler.Gen.Verlet.{scanBody, everyDecision, counterAfterRebuild, counterAfterRefresh, refreshWrap,
listCutoff}` (via the loop wrappers of `Sympler/Verlet.lean`).
The geometric half (reverse triangle inequality over ℝ) is `PropsR/C02.lean`.

* `scan skin ms`: `ms` = displacement magnitudes `|disp − disp__Old|` of the free particles of all
  colours that have an `IntegratorPosition`, in storage order; result = `newList`.
* `refreshWrap L c`: the refresh of one cartesian component `c = r₁ − r₂` of a stored pair in a box of
  extent `L` in that direction.
-/
namespace Sympler.Verlet
open Sympler.Gen.Verlet

/-! ## displacement-triggered rebuild -/

/-- **Exact characterisation** of the decision, for arbitrary rationals: no rebuild iff there is
no particle at all, or the skin is positive and all single magnitudes and all sums of two
magnitudes of different particles are below the skin. -/
theorem C02_scan_iff (skin : Rat) (ms : List Rat) :
    scan skin ms = false ↔
      ms = [] ∨ (0 < skin ∧ (∀ (i : Nat) (hi : i < ms.length), ms[i] < skin) ∧
        (∀ (i j : Nat) (hi : i < ms.length) (hj : j < ms.length), i ≠ j → ms[i] + ms[j] < skin)) := by
  -- the pair sums of `0, 0, ms…`, sorted by how many of the two zeros take part
  rw [scan, scanLoop_eq_false_iff skin ms 0 0 Rat.le_refl]
  simp only [PairsBelow, List.pairwise_cons, List.mem_cons, forall_eq_or_imp, Rat.zero_add, pairwise_sum_iff,
    List.forall_mem_iff_forall_getElem, and_assoc, and_self_left]

/-- **Soundness of the rebuild criterion** (post-fix loop): if the scan decides *not* to rebuild,
then any two DIFFERENT particles together moved less than the skin, and every single particle
moved less than the skin (no sign hypothesis is needed in this direction). -/
theorem C02_scan_sound (skin : Rat) (ms : List Rat) (h : scan skin ms = false) :
    (∀ (i j : Nat) (hi : i < ms.length) (hj : j < ms.length), i ≠ j → ms[i] + ms[j] < skin) ∧
    (∀ (i : Nat) (hi : i < ms.length), ms[i] < skin) := by
  rcases (C02_scan_iff skin ms).mp h with rfl | ⟨_, h1, hp⟩
  · exact ⟨fun i _ hi => absurd hi (Nat.not_lt_zero i), fun i hi => absurd hi (Nat.not_lt_zero i)⟩
  · exact ⟨hp, h1⟩

/-- **Completeness** for genuine magnitudes (`0 ≤ m`): a rebuild is triggered only if some particle
alone, or two different particles together, moved at least the skin (a single particle with `m ≥ skin` can occur because
`max2` starts at 0). -/
theorem C02_scan_complete (skin : Rat) (ms : List Rat) (h0 : ∀ x ∈ ms, 0 ≤ x)
    (h : scan skin ms = true) :
    (∃ (i : Nat) (hi : i < ms.length), skin ≤ ms[i]) ∨
    (∃ (i j : Nat) (hi : i < ms.length) (hj : j < ms.length), i ≠ j ∧ skin ≤ ms[i] + ms[j]) := by
  false_or_by_contra
  rename_i hc
  have h1 : ∀ (i : Nat) (hi : i < ms.length), ms[i] < skin :=
    fun i hi => Rat.not_le.mp fun hle => hc (Or.inl ⟨i, hi, hle⟩)
  have hp : ∀ (i j : Nat) (hi : i < ms.length) (hj : j < ms.length), i ≠ j →
      ms[i] + ms[j] < skin :=
    fun i j hi hj hne => Rat.not_le.mp fun hle => hc (Or.inr ⟨i, j, hi, hj, hne, hle⟩)
  have hf : scan skin ms = false := by
    rw [C02_scan_iff]
    cases ms with
    | nil => exact Or.inl rfl
    | cons t rest =>
      -- `0 ≤ t < skin`
      exact Or.inr ⟨Std.lt_of_le_of_lt (h0 t (List.mem_cons_self ..)) (h1 0 (Nat.zero_lt_succ _)),
        h1, hp⟩
  rw [hf] at h; cases h

/-- both outcomes occur, in both storage orders -/
example : scan (7/10) [3/10, 5/10] = true ∧ scan (7/10) [5/10, 3/10] = true ∧
    scan (7/10) [3/10, 3/10, 1/10] = false ∧ scan (7/10) [1/10, 1/10, 3/10, 1/10, 4/10] = true := by
  decide +kernel

/-- **The pre-fix loop violates soundness**: two particles, the slower one
stored first, together moved `8/10 ≥ 7/10 = skin`, and the old loop does not rebuild. -/
theorem C02_scan_old_unsound_witness :
    scanOld (7/10) [3/10, 5/10] = false ∧ ((3/10 : Rat) + 5/10 ≥ 7/10) := by
  decide +kernel

/-- The fixed loop rebuilds on these magnitudes; the pre-fix loop's decision depended on the storage
order. -/
theorem C02_scan_old_order_dependent :
    scan (7/10) [3/10, 5/10] = true ∧ scanOld (7/10) [5/10, 3/10] = true := by
  decide +kernel

/-- What the pre-fix loop did guarantee: without rebuild every single particle moved less than the
skin (which bounds a pair only by `2·skin`, not by `skin`). -/
theorem C02_scan_old_partial (skin : Rat) (ms : List Rat) (h : scanOld skin ms = false) :
    ∀ (i : Nat) (hi : i < ms.length), ms[i] < skin :=
  List.forall_mem_iff_forall_getElem.mp (scanOldLoop_false skin ms 0 0 (Rat.le_refl) h)

/-- **First evaluation rebuilds**: any scanned particle with magnitude `≥ skin` forces a rebuild,
wherever it is stored. -/
theorem C02_first_step_rebuilds (skin : Rat) (ms : List Rat) (m : Rat) (hm : m ∈ ms)
    (hs : skin ≤ m) : scan skin ms = true := by
  cases h : scan skin ms with
  | true => rfl
  | false =>
    obtain ⟨i, hi, rfl⟩ := List.getElem_of_mem hm
    exact absurd ((C02_scan_sound skin ms h).2 i hi) (Rat.not_lt.mpr hs)

/-- `setupAfterParticleCreation` (`oldDisp[dir] = 2*m_skin_size` for all three `dir`, current
displacement `0`) makes every magnitude of the first evaluation `m = |0 − (2s,2s,2s)|`, i.e. `m ≥ 0`,
`m² = 3·(2s)²`, at least the skin (`skin ≥ 0` is enforced by `setup`). -/
theorem C02_first_step_magnitude (skin m : Rat) (hs : 0 ≤ skin) (hm : 0 ≤ m)
    (hsq : m * m = (2 * skin) * (2 * skin) + (2 * skin) * (2 * skin) + (2 * skin) * (2 * skin)) :
    skin ≤ m := by
  apply Rat.not_lt.mp
  intro hlt
  have h1 : m * m ≤ skin * m := Rat.mul_le_mul_of_nonneg_right (Rat.le_of_lt hlt) hm
  have h2 : skin * m ≤ skin * skin := Rat.mul_le_mul_of_nonneg_left (Rat.le_of_lt hlt) hs
  have hpos : 0 < skin := by grind
  have h3 : 0 < skin * skin := Rat.mul_pos hpos hpos
  grind

/-- With NO scanned particle (no colour has an `IntegratorPosition`, or those colours have
no free particle yet) the displacement scan never asks for a list — not even at the first
evaluation.  Pairs among non-integrated free particles / frozen particles are then never listed. -/
theorem C02_scan_empty_never_rebuilds (skin : Rat) : scan skin [] = false := rfl

/-! ## counter mode (`every > 0`) -/

/-- In counter mode the list is rebuilt at call 0 and then exactly at the calls whose number is a
multiple of `every`. -/
theorem C02_every_mode (every n : Nat) (hE : 1 ≤ every) :
    (everyRun every n).length = n ∧
    ∀ (k : Nat) (hk : k < (everyRun every n).length),
      (everyRun every n)[k] = decide (k % every = 0) := by
  refine ⟨everyRunFrom_length every n 0, fun k hk => ?_⟩
  exact (everyRunFrom_getElem every hE n 0 k (Nat.zero_le _) hk).trans (by rw [Nat.zero_add])

example : everyRun 3 8 = [true, false, false, true, false, false, true, false] := by decide
example : everyRun 1 3 = [true, true, true] := by decide

/-! ## refresh branch -/

/-- **Periodic direction**: for a box extent `L > 0` and the raw difference `c` of two coordinates
in `[0, L)` the refreshed component is a minimum-image difference: `c + k·L` with `k ∈ {-1, 0, 1}`, in
`[-L/2, L/2]`, no other periodic image strictly nearer to 0; a component already in `[-L/2, L/2]` is
left untouched. -/
theorem C02_refresh_minimage (L c : Rat) (hL : 0 < L) (h1 : -L < c) (h2 : c < L) :
    (∃ k : Int, (k = -1 ∨ k = 0 ∨ k = 1) ∧ refreshWrap L c = c + k * L) ∧
    (-(L / 2) ≤ refreshWrap L c ∧ refreshWrap L c ≤ L / 2) ∧
    (∀ n : Int, n ≠ 0 → L / 2 ≤ refreshWrap L c + n * L ∨ refreshWrap L c + n * L ≤ -(L / 2)) ∧
    (-(L / 2) ≤ c → c ≤ L / 2 → refreshWrap L c = c) := by
  have hL0 := Rat.le_of_lt hL
  have hrange : -(L / 2) ≤ refreshWrap L c ∧ refreshWrap L c ≤ L / 2 := by
    rcases refreshWrap_cases hL0 c with ⟨h, e⟩ | ⟨h, e⟩ | ⟨ha, hb, e⟩
    · rw [e]; grind
    · rw [e]; grind
    · rw [e]; exact ⟨ha, hb⟩
  refine ⟨?_, hrange, fun n hn => ?_, refreshWrap_of_mid⟩
  · rcases refreshWrap_cases hL0 c with ⟨_, e⟩ | ⟨_, e⟩ | ⟨_, _, e⟩
    · exact ⟨-1, Or.inl rfl, by simp [e, Rat.sub_eq_add_neg, Rat.neg_mul]⟩
    · exact ⟨1, Or.inr (Or.inr rfl), by simp [e, Rat.one_mul]⟩
    · exact ⟨0, Or.inr (Or.inl rfl), by simp [e, Rat.zero_mul, Rat.add_zero]⟩
  · -- a shift by `|n| ≥ 1` box lengths leads out of `[-L/2, L/2]`
    rcases Int.lt_or_gt_of_ne hn with hneg | hpos
    · have hn1 : (n : Rat) ≤ -1 := Rat.intCast_le_intCast.mpr (Int.le_sub_one_of_lt hneg)
      have : (n : Rat) * L ≤ (-1) * L := Rat.mul_le_mul_of_nonneg_right hn1 hL0
      right; grind
    · have hn1 : (1 : Rat) ≤ (n : Rat) := Rat.intCast_le_intCast.mpr hpos
      have : 1 * L ≤ (n : Rat) * L := Rat.mul_le_mul_of_nonneg_right hn1 hL0
      left; grind

/-- all three cases of the wrap occur -/
example : refreshWrap 10 7 = -3 ∧ refreshWrap 10 (-7) = 3 ∧ refreshWrap 10 4 = 4 ∧
    refreshWrap 10 5 = 5 ∧ refreshWrap 10 (-5) = -5 := by decide +kernel

/-- **Non-periodic direction** — the wrap is applied there too although it should not be
(`refreshWrapGuardedByPeriodicity = false`).  Here `c` is the TRUE component of the separation.
With interaction cutoff `rc`, skin `s`, and the cell-subdivision guarantee `L ≥ 2·(rc + s)`
(at least two cells of width ≥ `listCutoff rc s` per direction):
* a component with `|c| ≤ L/2` (every truly close pair) is reported exactly, any other as `c ∓ L`;
* a listed pair (`|c₀| < rc + s` at the rebuild, both particles together moved `< s` since, hence
  `|c| < rc + 2s` now) whose component is wrongly wrapped is still reported with modulus `> rc`,
  so the pair is not reported inside the interaction cutoff. -/
theorem C02_refresh_no_false_close (L rc s c : Rat) (hrc : 0 < rc) (hs : 0 ≤ s)
    (hL : 2 * listCutoff rc s ≤ L) :
    (-(L / 2) ≤ c → c ≤ L / 2 → refreshWrap L c = c) ∧
    (-rc < c → c < rc → refreshWrap L c = c) ∧
    (L / 2 < c → refreshWrap L c = c - L) ∧
    (c < -(L / 2) → refreshWrap L c = c + L) ∧
    (-(rc + 2 * s) < c → c < rc + 2 * s → refreshWrap L c ≠ c →
      rc < refreshWrap L c ∨ refreshWrap L c < -rc) := by
  unfold listCutoff at hL
  obtain ⟨hh, hL0⟩ : rc ≤ L / 2 ∧ 0 ≤ L := by grind
  refine ⟨refreshWrap_of_mid, fun h1 h2 => ?_, refreshWrap_of_gt, refreshWrap_of_lt hL0,
    fun h1 h2 hne => ?_⟩
  · exact refreshWrap_of_mid (Rat.le_trans (Rat.neg_le_neg hh) (Rat.le_of_lt h1))
      (Rat.le_trans (Rat.le_of_lt h2) hh)
  · -- a wrongly wrapped component has moved by `L ≥ 2 rc + 2 s`, which takes it across `[-rc, rc]`
    rcases refreshWrap_cases hL0 c with ⟨_, e⟩ | ⟨_, e⟩ | ⟨_, _, e⟩
    · rw [e]; right; grind
    · rw [e]; left; grind
    · exact absurd e hne

/-- The box condition of `C02_refresh_no_false_close` is sharp: in any smaller box some admissible
component of a listed pair is wrongly wrapped to a value inside the interaction cutoff. -/
theorem C02_refresh_box_condition_sharp (L rc s : Rat) (hrc : 0 < rc) (hs : 0 ≤ s) (hL0 : 0 < L)
    (hL : L < 2 * listCutoff rc s) :
    ∃ c, -(rc + 2 * s) < c ∧ c < rc + 2 * s ∧ refreshWrap L c ≠ c ∧
      -rc < refreshWrap L c ∧ refreshWrap L c < rc := by
  unfold listCutoff at hL
  -- a component in `(L/2, L)` is wrapped to `c - L < 0`; to be admissible and to land inside the
  -- cutoff it must also lie below `rc + 2 s` and above `L - rc`
  obtain ⟨c, h1, h2, h3, h4⟩ : ∃ c, L / 2 < c ∧ L - rc < c ∧ c < L ∧ c < rc + 2 * s := by
    have : L / 2 < L ∧ L / 2 < rc + 2 * s ∧ L - rc < L ∧ L - rc < rc + 2 * s := by grind
    exact exists_between this.1 this.2.1 this.2.2.1 this.2.2.2
  refine ⟨c, ?_⟩
  rw [refreshWrap_of_gt h1]
  grind

/-- `rc = 1`, `s = 1/2`, `L = 3 = 2(rc+s)`; a listed pair
whose true component grew to `c = 19/10 < rc + 2s` is wrongly wrapped to `-11/10`, modulus `> rc`. -/
example : (2 * listCutoff 1 (1/2) ≤ (3 : Rat)) ∧ refreshWrap 3 (19/10) = -11/10 ∧
    refreshWrap 3 (19/10) ≠ 19/10 := by decide +kernel

theorem C02_refreshVec_components (box d : Rat × Rat × Rat) :
    refreshVec box d =
      (refreshWrap box.1 d.1, refreshWrap box.2.1 d.2.1, refreshWrap box.2.2 d.2.2) := rfl

/-- the scan state of the generated source is what the model `scan` assumes: `max_disp` and `max2` start at 0 and are
declared BEFORE the loop over colours, i.e. the list of magnitudes scanned is the concatenation over all species
(resetting them per species would compare only displacements within one species) -/
theorem C02_scan_scope : scanStateSharedByAllColours = true ∧ scanInit = (0, 0) := by decide

end Sympler.Verlet
