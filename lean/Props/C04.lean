import Sympler.DynLemmas

/-!
# C04 — pair forces are reciprocal; only free particles, only inside the force's own cutoff

Model: `Sympler.Dyn`.  `pairOp` is the one kernel of `FPairVels::computeForces(Pairdist*, int)`
(and of `FPairScalar/Vector`, `PairParticleScalar/Vector::compute`): inside the module's cutoff
`first += factor_i ∘ F` if `actsOnFirst`, `second += symmetry * (factor_j ∘ F)` if `actsOnSecond`.
-/
namespace Sympler.Dyn

/-- `FPairVels` with its default symmetry (`-1`) and equal particle factors
(default: both `idVec(1)`): what the kernel adds to the second particle is exactly minus what it adds
to the first, for every pair and every state. -/
theorem C04_reciprocal (m : PairMod) (hsym : m.sym = -1) (hfac : m.fi = m.fj) (env : Env) :
    m.second env = - m.first env :=
  second_eq_neg_first m ⟨hsym, hfac⟩ env

/-- … and so, for a pair of two free particles, the two increments of one kernel call cancel -/
theorem C04_reciprocal_op (cfg : Config) (k : Bool) (m : PairMod) (hsym : m.sym = -1) (hfac : m.fi = m.fj)
    (st : State) (a b : Nat) (hab : a ≠ b) (hfa : (st.ps a).frozen = false) (hfb : (st.ps b).frozen = false) :
    pairDelta cfg k m st a b a (m.target.key k) + pairDelta cfg k m st a b b (m.target.key k) = 0 := by
  unfold pairDelta
  split
  · simp only [hfa, hfb, hab, Ne.symm hab, and_true, true_and, false_and, if_true, if_false]
    rw [second_eq_neg_first m ⟨hsym, hfac⟩, Vec3.add_zero, Vec3.zero_add, Vec3.add_neg_self]
  · exact Vec3.add_zero _

/-- non-vacuity: the force of the example is reciprocal and does act between particles 0 and 1 -/
example : let m := Ex.cfg.pairForces.head!
    m.sym = -1 ∧ m.fi = m.fj ∧
    pairDelta Ex.cfg false m Ex.st 0 1 0 (.force .vel false) = ⟨-1/2, 0, 0⟩ ∧
    pairDelta Ex.cfg false m Ex.st 0 1 1 (.force .vel false) = ⟨1/2, 0, 0⟩ := by
  refine ⟨by decide +kernel, rfl, by decide +kernel, by decide +kernel⟩

/-- No pair module ever writes to a frozen particle (the acts-on guards of the
kernel), for any module, any pair, any state: the whole record of a frozen particle — both force
buffers and every tag attribute included — is the same after the kernel call, and after the complete
force evaluation. -/
theorem C04_free_only (cfg : Config) (k : Bool) (m : PairMod) (a b : Nat) (st : State) (i : Nat)
    (hfz : (st.ps i).frozen = true) :
    (pairOp cfg k m a b st).ps i = st.ps i ∧ (forces cfg k st).ps i = st.ps i :=
  ⟨(pairOp_pres cfg k m a b st).frozen i hfz, (forces_pres cfg k st).frozen i hfz⟩

/-- non-vacuity: a frozen particle (index 1 of `Ex.stFrozen`) sits inside the cutoff of the free
particle 0, the kernel does act on the pair — on the free partner only -/
example : (Ex.stFrozen.ps 1).frozen = true ∧
    pairActive Ex.cfg Ex.cfg.pairForces.head! Ex.stFrozen 0 1 = true ∧
    pairDelta Ex.cfg false Ex.cfg.pairForces.head! Ex.stFrozen 0 1 0 (.force .vel false) = ⟨-1/2, 0, 0⟩ ∧
    pairDelta Ex.cfg false Ex.cfg.pairForces.head! Ex.stFrozen 0 1 1 (.force .vel false) = 0 := by
  decide +kernel

/-- A pair outside the module's OWN cutoff gets nothing from it, however far the neighbour list of the
colour pair reaches (the list cutoff is the maximum over all modules of the colour pair, `listCutoff`).
This is `pairOp_outside`, for either buffer. -/
theorem C04_own_cutoff (cfg : Config) (k : Bool) (m : PairMod) (a b : Nat) (st : State)
    (hout : inCut cfg m (st.ps a) (st.ps b) = false) :
    pairOp cfg k m a b st = st ∧ ∀ i key, pairDelta cfg k m st a b i key = 0 :=
  pairOp_outside cfg k m a b st hout

/-- Conversely the list never hides a pair inside the own cutoff: for a registered module, "acts on `(a,b)`"
is exactly "passes the colour/orientation/not-both-frozen guard and `|d|² < cutoff²`" (`pairGuard`, `inCut`;
minimum-image distance of the CURRENT positions). -/
theorem C04_own_cutoff_exact (cfg : Config) (m : PairMod) (hm : m ∈ cfg.pairForces ∨ m ∈ cfg.sums)
    (hc : 0 ≤ m.cutoff) (st : State) (a b : Nat) :
    pairActive cfg m st a b = (pairGuard st m.c1 m.c2 a b && inCut cfg m (st.ps a) (st.ps b)) :=
  pairActive_iff cfg m hm hc st a b

/-- non-vacuity: particles 0 and 2 of the example are a list entry (distance 5/4 < list cutoff 3/2,
the cutoff of the pair sum `n`) but outside the cutoff 1 of the force -/
example : inList Ex.cfg Ex.st 0 0 0 2 = true ∧ listCutoff Ex.cfg 0 0 = 3/2 ∧
    inCut Ex.cfg Ex.cfg.pairForces.head! (Ex.st.ps 0) (Ex.st.ps 2) = false ∧
    inCut Ex.cfg Ex.cfg.sums.head! (Ex.st.ps 0) (Ex.st.ps 2) = true := by decide +kernel

/-- Setting `Closed`: every particle is free and integrated by exactly one velocity
Verlet of non-zero mass, only reciprocal pair forces drive the velocities (no one-particle force; the
model has no walls, i.e. this is the fully periodic system without external forces).  Then the forces
add up to zero after the initial force computation and after every step, and the total linear
momentum `Σ m v` after `init` and after ANY number of steps equals the initial one — for every
`lambda`, every `dt`, every cutoff, velocity-dependent reciprocal forces included. -/
theorem C04_momentum (cfg : Config) (st0 : State) (h : Closed cfg st0) (n : Nat) :
    forceSum (run cfg n (init cfg st0)) = 0 ∧
    momentum cfg (run cfg n (init cfg st0)) = momentum cfg st0 :=
  ⟨(run_momentum cfg st0 h n).2, (run_momentum cfg st0 h n).1⟩

/-- non-vacuity: the closed variant of the example satisfies `Closed`; the particles do accelerate
while the total momentum stays `(1,0,0)` -/
example : Closed Ex.cfgClosed Ex.st ∧ momentum Ex.cfgClosed Ex.st = ⟨1, 0, 0⟩ ∧
    ((run Ex.cfgClosed 3 (init Ex.cfgClosed Ex.st)).ps 0).v ≠ (Ex.st.ps 0).v := by
  refine ⟨⟨by decide, ?_, ?_, ?_, ?_⟩, by decide +kernel, by decide +kernel⟩
  · intro i hi
    have : i = 0 ∨ i = 1 ∨ i = 2 := by simp [Ex.st] at hi; omega
    rcases this with rfl | rfl | rfl <;> decide
  · intro i hi
    have : i = 0 ∨ i = 1 ∨ i = 2 := by simp [Ex.st] at hi; omega
    refine ⟨1/4, 2, ?_, by decide +kernel⟩
    rcases this with rfl | rfl | rfl <;> decide +kernel
  · intro m hm ht
    simp only [Ex.cfgClosed, Ex.cfg, List.mem_cons, List.not_mem_nil, or_false] at hm
    subst hm
    exact ⟨by decide +kernel, rfl⟩
  · intro m hm
    simp only [Ex.cfgClosed, List.mem_cons, List.not_mem_nil, or_false] at hm
    subst hm
    decide

end Sympler.Dyn
