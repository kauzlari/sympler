import Sympler.DynLemmas

/-!
# C10 — frozen particles never change; free particles still feel them

Model: `Sympler.Dyn`.  Every write of every modelled module goes through one of three guarded
primitives: `State.mapFree` (`FOR_EACH_FREE_PARTICLE…`: integrators, clearing, particle caches,
one-particle forces) and the two acts-on guards of the pair kernel `pairOp`.  `Pres st st'` collects
what therefore holds between the state before and after ANY phase: same particle count, same
colour/slot/frozen flag of every particle, and `st'.ps i = st.ps i` for every frozen `i`.
-/
namespace Sympler.Dyn

/-- number of frozen particles -/
def nFrozen (st : State) : Nat := ((List.range st.n).filter (fun i => (st.ps i).frozen)).length

/-- For EVERY configuration (any list of integrators, particle caches, pair sums,
pair forces, one-particle forces of the modelled kinds; well-formed or not), every state and every
frozen particle `i`: the complete record of `i` — colour, slot, frozen flag, position, velocity, both
force buffers and every tag attribute — is the same after a time step, after the initial force
computation, and after `init` followed by any number of steps. -/
theorem C10_frozen_fixed (cfg : Config) (st : State) (i : Nat) (hfz : (st.ps i).frozen = true) (n : Nat) :
    (step cfg st).ps i = st.ps i ∧ (init cfg st).ps i = st.ps i ∧
    (run cfg n (init cfg st)).ps i = st.ps i :=
  ⟨(step_pres cfg st).frozen i hfz, (init_pres cfg st).frozen i hfz,
   (run_init_pres cfg n st).frozen i hfz⟩

/-- The particle count, the frozen flag of every particle and so the number of frozen particles never change. -/
theorem C10_frozen_count (cfg : Config) (st : State) (n : Nat) :
    (run cfg n (init cfg st)).n = st.n ∧
    (∀ i, ((run cfg n (init cfg st)).ps i).frozen = (st.ps i).frozen) ∧
    nFrozen (run cfg n (init cfg st)) = nFrozen st := by
  have hp := run_init_pres cfg n st
  refine ⟨hp.n, fun i => (hp.ident i).2.2, ?_⟩
  unfold nFrozen
  rw [hp.n]
  congr 2
  funext i
  rw [(hp.ident i).2.2]

/-- non-vacuity: the frozen particle of `Ex.stFrozen` carries a velocity `(7,7,7)` and tag values 5;
after 3 steps they are still there, while its free neighbour has moved -/
example : (Ex.stFrozen.ps 1).frozen = true ∧
    ((run Ex.cfg 3 (init Ex.cfg Ex.stFrozen)).ps 1).v = ⟨7, 7, 7⟩ ∧
    ((run Ex.cfg 3 (init Ex.cfg Ex.stFrozen)).ps 1).r = ⟨3/2, 1, 1⟩ ∧
    ((run Ex.cfg 3 (init Ex.cfg Ex.stFrozen)).ps 1).tag (.sym "n") = ⟨5, 5, 5⟩ ∧
    ((run Ex.cfg 3 (init Ex.cfg Ex.stFrozen)).ps 1).tag (.force .vel true) = ⟨5, 5, 5⟩ ∧
    ((run Ex.cfg 3 (init Ex.cfg Ex.stFrozen)).ps 0).r ≠ (Ex.stFrozen.ps 0).r ∧
    nFrozen (run Ex.cfg 3 (init Ex.cfg Ex.stFrozen)) = 1 := by decide +kernel

/-- A frozen partner is a partner: for a registered pair module `m` (force or sum), a FREE
particle `a` and a FROZEN particle `b` of the right colours inside the module's cutoff, the kernel
acts on the pair and adds the full first-particle contribution to `a` (and symmetrically when the
frozen one is the first of the pair).  The sums of `C05_force_fresh` / `C07_sum` range over all `b < n`, free or not. -/
theorem C10_felt (cfg : Config) (k : Bool) (m : PairMod) (hm : m ∈ cfg.pairForces ∨ m ∈ cfg.sums)
    (hc : 0 ≤ m.cutoff) (st : State) (a b : Nat) (hab : a ≠ b)
    (hfa : (st.ps a).frozen = false) (hfb : (st.ps b).frozen = true)
    (hin : inCut cfg m (st.ps a) (st.ps b) = true) :
    ((st.ps a).colour = m.c1 → (st.ps b).colour = m.c2 → (m.c1 ≠ m.c2 ∨ a < b) →
      pairDelta cfg k m st a b a (m.target.key k) = m.first (mkEnv cfg.box (st.ps a) (st.ps b))) ∧
    ((st.ps b).colour = m.c1 → (st.ps a).colour = m.c2 → (m.c1 ≠ m.c2 ∨ b < a) →
      inCut cfg m (st.ps b) (st.ps a) = true →
      pairDelta cfg k m st b a a (m.target.key k) = m.second (mkEnv cfg.box (st.ps b) (st.ps a))) := by
  have hba : ¬ b = a := fun h => hab h.symm
  constructor
  · intro h1 h2 h3
    unfold pairDelta
    rw [pairActive_iff cfg m hm hc]
    have hg : pairGuard st m.c1 m.c2 a b = true := by
      simp only [pairGuard, h1, h2, hfa]
      rcases h3 with h3 | h3 <;> simp [hab, h3]
    simp [hg, hin, hfa, hab]
  · intro h1 h2 h3 hin'
    unfold pairDelta
    rw [pairActive_iff cfg m hm hc]
    have hg : pairGuard st m.c1 m.c2 b a = true := by
      simp only [pairGuard, h1, h2, hfa]
      rcases h3 with h3 | h3 <;> simp [hba, h3]
    simp [hg, hin', hfa, hfb]

/-- non-vacuity and the observable effect: with particle 1 frozen the free particle 0 gets the same
force from it as when it is free, and without it the force is different -/
example : ((init Ex.cfg Ex.stFrozen).ps 0).tag (.force .vel false) = ⟨-1/2, 1, 0⟩ ∧
    ((init Ex.cfg Ex.st).ps 0).tag (.force .vel false) = ⟨-1/2, 1, 0⟩ ∧
    ((init Ex.cfg { Ex.stFrozen with n := 1 }).ps 0).tag (.force .vel false) = ⟨0, 1, 0⟩ := by decide +kernel

end Sympler.Dyn
