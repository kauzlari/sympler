import Sympler.DynLemmas

/-!
# C05 — time integration advances every degree of freedom by exactly one correct step

Model: `Sympler.Dyn` (`step` = `Controller::integrate`, `init` = the force computation before the
main loop of `Controller::run`).  All statements are about exact (rational) arithmetic.

* `preState cfg st`  — the state on which `step` evaluates the forces: after `integrateStep1` of all
  integrators (new positions, predictor velocities), the clearing, and `runSymbols` (all symbols recomputed).
* `totalForce cfg S i d` — the registered pair forces driving `d` (direct sum over all partners inside the
  force's own cutoff) plus the registered one-particle forces of the particle's colour driving `d`, each
  list element of `cfg.pairForces` / `cfg.partForces` exactly once.
* `d` is `Dof.vel` (buffers `Particle::force[0..1]`) or `Dof.user s` (tag attributes `force_s_0/1` of
  an `IntegratorScalar/Vector`); `hd` below says that the integrator owning the attribute is registered
  for the particle's colour (otherwise the real attribute does not even exist).
-/
namespace Sympler.Dyn

/-- One step, either parity of the force index.  After `step`, the force buffer
with the NEW index of every free particle equals the sum of all registered force modules driving that
degree of freedom, each exactly once, evaluated on the updated positions with recomputed symbols —
and nothing else (no remainder of an earlier step: the right-hand side does not mention the old
contents of any force buffer). -/
theorem C05_force_fresh (cfg : Config) (hwf : cfg.wf = true) (st : State) (i : Nat)
    (hi : i < st.n) (hf : (st.ps i).frozen = false) (d : Dof)
    (hd : d = .vel ∨ ∃ name, d = .user name ∧ Integrator.euler (st.ps i).colour name ∈ cfg.integrators) :
    (step cfg st).forceIdx = (!st.forceIdx) ∧
    ((step cfg st).ps i).tag (.force d (step cfg st).forceIdx) = totalForce cfg (preState cfg st) i d :=
  ⟨step_forceIdx cfg st, step_force cfg hwf st i hi hf d hd⟩

/-- the same for the force computation before the main loop -/
theorem C05_force_fresh_init (cfg : Config) (hwf : cfg.wf = true) (st : State) (i : Nat)
    (hi : i < st.n) (hf : (st.ps i).frozen = false) (d : Dof)
    (hd : d = .vel ∨ ∃ name, d = .user name ∧ Integrator.euler (st.ps i).colour name ∈ cfg.integrators) :
    (init cfg st).forceIdx = st.forceIdx ∧
    ((init cfg st).ps i).tag (.force d st.forceIdx) = totalForce cfg (initState cfg st) i d :=
  ⟨(init_agree cfg hwf st).fi, init_force cfg hwf st i hi hf d hd⟩

/-- The same for whole runs (all run lengths, odd and even): after `n+1` steps the two
buffers have alternated `n+1` times, the current one holds exactly the forces evaluated during the
last step, and the other one still holds, untouched, the forces of the step before (they are what
`integrateStep2` needs for the `(1/2 - lambda)` correction). -/
theorem C05_force_fresh_run (cfg : Config) (hwf : cfg.wf = true) (st0 : State) (n : Nat) (i : Nat)
    (hi : i < st0.n) (hf : (st0.ps i).frozen = false) (d : Dof)
    (hd : d = .vel ∨ ∃ name, d = .user name ∧ Integrator.euler (st0.ps i).colour name ∈ cfg.integrators) :
    let prev := run cfg n (init cfg st0)
    let cur := run cfg (n + 1) (init cfg st0)
    cur.forceIdx = (if (n + 1) % 2 = 0 then st0.forceIdx else !st0.forceIdx) ∧
    (cur.ps i).tag (.force d cur.forceIdx) = totalForce cfg (preState cfg prev) i d ∧
    (cur.ps i).tag (.force d prev.forceIdx) = (prev.ps i).tag (.force d prev.forceIdx) := by
  intro prev cur
  have hp : Pres st0 prev := run_init_pres cfg n st0
  have hi' : i < prev.n := by rw [hp.n]; exact hi
  have hf' : (prev.ps i).frozen = false := by rw [(hp.ident i).2.2]; exact hf
  have hd' : d = .vel ∨ ∃ name, d = .user name ∧ Integrator.euler (prev.ps i).colour name ∈ cfg.integrators := by
    rw [(hp.ident i).1]; exact hd
  refine ⟨?_, step_force cfg hwf prev i hi' hf' d hd', ?_⟩
  · show (run cfg (n + 1) (init cfg st0)).forceIdx = _
    rw [run_forceIdx, (init_agree cfg hwf _).fi]
  · exact step_keeps_old cfg hwf prev i hi' hf' d hd'

/-- non-vacuity: in the example scenario the hypotheses hold and both kinds of force (two modules on
the velocity, one on the scalar `s`) arrive in the new buffer -/
example : Ex.cfg.wf = true ∧
    ((step Ex.cfg (init Ex.cfg Ex.st)).ps 0).tag (.force .vel true) = ⟨-25/64, 1, 0⟩ ∧
    ((step Ex.cfg (init Ex.cfg Ex.st)).ps 0).tag (.force (.user "s") true) = ⟨3, 0, 0⟩ ∧
    Integrator.euler ((init Ex.cfg Ex.st).ps 0).colour "s" ∈ Ex.cfg.integrators := by decide +kernel

/-- For a free particle whose colour is integrated by one velocity Verlet with
mass `m` and ANY `lambda`, one `step` is the textbook velocity-Verlet map
`r' = r + dt v + dt²/(2m) F_old` (then the periodic wrap), `v' = v + dt/(2m) (F_old + F_new)` with
`F_new =` all registered forces evaluated on the new state (`C05_force_fresh`).  `lambda` does not
occur on the right-hand sides; it only enters `F_new` through the predictor velocity seen by
velocity-dependent expressions. -/
theorem C05_vv_textbook (cfg : Config) (hwf : cfg.wf = true) (st : State) (i : Nat) (hi : i < st.n)
    (hf : (st.ps i).frozen = false) (l m : Rat) (hvv : vvOf cfg (st.ps i).colour = [(l, m)]) :
    let Fold := (st.ps i).tag (.force .vel st.forceIdx)
    let Fnew := totalForce cfg (preState cfg st) i .vel
    ((step cfg st).ps i).r
      = wrap cfg.box ((st.ps i).r + cfg.dt • (st.ps i).v + (cfg.dt * cfg.dt / 2) • ((1 / m) • Fold)) ∧
    ((step cfg st).ps i).v = (st.ps i).v + (cfg.dt / 2) • ((1 / m) • (Fold + Fnew)) := by
  intro Fold Fnew
  have h := step_vv cfg hwf st i hi hf l m hvv
  have hF := step_force cfg hwf st i hi hf .vel (Or.inl rfl)
  rw [step_forceIdx] at hF
  refine ⟨?_, by rw [h.2, hF]⟩
  rw [h.1, Vec3.smul_add, Vec3.smul_smul, ← Vec3.add_assoc,
    show cfg.dt * (1 / 2 * cfg.dt) = cfg.dt * cfg.dt / 2 by grind]

/-- Independence of `lambda`: when no expression of the input reads a velocity (and no colour has two
velocity-Verlet integrators), the state after a time step is the same for every choice of the
`lambda`s. -/
theorem C05_lambda_independent (cfg : Config) (hwf : cfg.wf = true) (hnv : NoVel cfg) (g : Nat → Rat)
    (st : State) (hlen : ∀ c, (vvOf cfg c).length ≤ 1) (i : Nat) (hi : i < st.n) :
    (step (cfg.withLambda g) st).ps i = (step cfg st).ps i ∧
    (step (cfg.withLambda g) st).forceIdx = (step cfg st).forceIdx :=
  ⟨step_withLambda cfg hwf hnv g st hlen i hi, by rw [step_forceIdx, step_forceIdx]⟩

/-- non-vacuity: the example reads no velocity, has one velocity Verlet; `lambda = 1/4` and
`lambda = 3` give the same velocity after a step, which differs from the initial one -/
example : (∀ c ∈ Ex.cfg.caches, c.expr.usesVel = false) ∧ (∀ m ∈ Ex.cfg.sums, m.usesVel = false) ∧
    (∀ m ∈ Ex.cfg.pairForces, m.usesVel = false) ∧ (∀ c ∈ Ex.cfg.partForces, c.expr.usesVel = false) ∧
    vvOf Ex.cfg 0 = [(1/4, 2)] ∧
    ((step (Ex.cfg.withLambda (fun _ => 3)) (init Ex.cfg Ex.st)).ps 0).v = ((step Ex.cfg (init Ex.cfg Ex.st)).ps 0).v ∧
    ((step Ex.cfg (init Ex.cfg Ex.st)).ps 0).v ≠ (Ex.st.ps 0).v := by decide +kernel

/-- Setting `RevCfg`: no expression reads a velocity (position-only forces,
pair forces and one-particle forces alike, through any symbols), all integrators are velocity
Verlets (at most one per colour, any `lambda`, any masses), free space (no periodic direction: the
model has no walls, so this is the only setting without wrap-around; the periodic case is tested on
the real binary by the `reverse` check of `corr_dyn.py`).  Computed symbols are non-persistent
(`NPT`), indices `≥ n` hold frozen dummies (`Junk`, true for every state the driver builds).
Then for ALL run lengths `N`: run `N` steps, reverse the velocities, run `N` steps, reverse the
velocities — every particle is back at its initial position with its initial velocity, exactly. -/
theorem C05_vv_reversible (cfg : Config) (hc : RevCfg cfg) (st0 : State) (hnpt : NPT cfg st0) (hj : Junk st0)
    (N : Nat) (i : Nat) :
    let back := flip (run cfg N (flip (run cfg N (init cfg st0))))
    (back.ps i).r = (st0.ps i).r ∧ (back.ps i).v = (st0.ps i).v := by
  intro back
  have h := rev_run cfg hc st0 hnpt hj N N (Nat.le_refl N)
  rw [Nat.sub_self] at h
  have hb := (init_agree cfg hc.wf st0).body i
  refine ⟨(h.r i).trans hb.r, ?_⟩
  show -((run cfg N (flip (run cfg N (init cfg st0)))).ps i).v = _
  rw [h.v i, Vec3.neg_neg]; exact hb.v

/-- non-vacuity: `Ex.cfgRev` (free space, one velocity Verlet, the pair force `[rij]`, the pair sum
`n`) satisfies all hypotheses; after 2 steps particle 0 is somewhere else with another velocity -/
example : RevCfg Ex.cfgRev ∧ NPT Ex.cfgRev Ex.st ∧ Junk Ex.st ∧
    ((run Ex.cfgRev 2 (init Ex.cfgRev Ex.st)).ps 0).r ≠ (Ex.st.ps 0).r ∧
    ((run Ex.cfgRev 2 (init Ex.cfgRev Ex.st)).ps 0).v ≠ (Ex.st.ps 0).v := by
  refine ⟨⟨by decide, ⟨by decide, by decide, by decide, by decide⟩, ?_, ?_, ⟨rfl, rfl, rfl⟩⟩,
    ⟨fun m hm => by simp [Ex.cfgRev, Ex.cfg] at hm, fun m hm c => ?_⟩, ?_, by decide +kernel, by decide +kernel⟩
  · intro ig hig
    simp only [Ex.cfgRev, List.mem_cons, List.not_mem_nil, or_false] at hig
    exact ⟨_, _, _, hig⟩
  · intro c
    simp only [vvOf, vvOfL, Ex.cfgRev, List.filterMap_cons, List.filterMap_nil]
    split <;> simp
  · simp only [Ex.cfgRev, Ex.cfg, List.mem_cons, List.not_mem_nil, or_false] at hm
    subst hm
    rfl
  · intro i hi
    have h3 : 3 ≤ i := hi
    have h0 : i ≠ 0 := by omega
    have h1 : i ≠ 1 := by omega
    have h2 : i ≠ 2 := by omega
    simp [Ex.st, h0, h1, h2]
    rfl

/-- If the registered forces on the velocity of particle `i` add up to the
same `F` in every state (e.g. only constant one-particle forces), then for ALL run lengths `n`
`v_n = v_0 + n dt F/m` and `r_n = r_0 + n dt v_0 + (n dt)²/2 · F/m` up to a lattice vector of the
periodic directions (`LatEq`; equality when nothing is periodic). -/
theorem C05_vv_const_accel (cfg : Config) (hwf : cfg.wf = true) (st0 : State) (i : Nat) (hi : i < st0.n)
    (hf : (st0.ps i).frozen = false) (l m : Rat) (hvv : vvOf cfg (st0.ps i).colour = [(l, m)])
    (F : Vec3) (hconst : ∀ S : State, (S.ps i).colour = (st0.ps i).colour → totalForce cfg S i .vel = F)
    (n : Nat) :
    ((run cfg n (init cfg st0)).ps i).v = (st0.ps i).v + (((n : Nat) : Rat) * cfg.dt) • ((1 / m) • F) ∧
    LatEq cfg.box ((run cfg n (init cfg st0)).ps i).r
      ((st0.ps i).r + (((n : Nat) : Rat) * cfg.dt) • (st0.ps i).v
        + ((((n : Nat) : Rat) * cfg.dt) * (((n : Nat) : Rat) * cfg.dt) / 2) • ((1 / m) • F)) :=
  ⟨(run_vv_const cfg hwf st0 i hi hf l m hvv F hconst n).1, (run_vv_const cfg hwf st0 i hi hf l m hvv F hconst n).2.1⟩

/-- the premise `hconst` of `C05_vv_const_accel` / `C05_euler_const_rate` holds when no pair force
drives the quantity and every one-particle force driving it is a constant expression -/
theorem C05_const_forces (cfg : Config) (d : Dof) (c : Nat)
    (hpair : ∀ m ∈ cfg.pairForces, m.target ≠ .force d)
    (hpart : ∀ m ∈ cfg.partForces, m.target = .force d → ∃ x, m.expr = .vec x)
    (S : State) (i : Nat) (hc : (S.ps i).colour = c) :
    totalForce cfg S i d = vsum (cfg.partForces.map (fun m =>
      if m.target = .force d ∧ m.colour = c then m.expr.eval (envP default) else 0)) := by
  unfold totalForce
  rw [vsum_map_zero _ _ (fun m hm => by simp [hpair m hm])]
  simp only [Vec3.zero_add]
  apply vsum_map_congr
  intro m hm
  rw [hc]
  split
  · rename_i h
    obtain ⟨x, hx⟩ := hpart m hm h.1
    rw [hx]; rfl
  · rfl

/-- non-vacuity of `C05_vv_const_accel` with `C05_const_forces`: a single particle in the example
configuration feels only the constant force `(0,1,0)`; `F` is not zero and the particle does move. -/
example : let s1 : State := { Ex.st with n := 1 }
    (∀ S : State, (S.ps 0).colour = 0 → totalForce { Ex.cfg with pairForces := [] } S 0 .vel = ⟨0, 1, 0⟩) ∧
    ((run { Ex.cfg with pairForces := [] } 2 (init { Ex.cfg with pairForces := [] } s1)).ps 0).v = ⟨1/2, 1/4, 0⟩ := by
  intro s1
  refine ⟨fun S hS => ?_, by decide +kernel⟩
  rw [C05_const_forces { Ex.cfg with pairForces := [] } .vel 0 (by simp)
    (by intro m hm ht
        simp only [Ex.cfg, List.mem_cons, List.not_mem_nil, or_false] at hm
        rcases hm with rfl | rfl
        · exact ⟨_, rfl⟩
        · cases ht) S 0 hS]
  decide +kernel

/-- The integrators of user-defined scalar/vector quantities
(`IntegratorScalar`, `IntegratorVector`; `IntegratorTensor` runs the same kernel, `C05L_tensor_euler` in `Props/C05Lambda`, but
tensor quantities are not in the model `Dyn`)
reproduce a constant rate of change exactly, for all run lengths and any number of force modules
adding up to the rate `R`: `s_n = s_0 + n dt R`.
Hypotheses: exactly one integrator owns the quantity `name` for the particle's colour; `name` is a
degree of freedom, not a computed symbol (`NotComputed`), its attribute is persistent (as
`IntegratorScalar::setup` registers it). -/
theorem C05_euler_const_rate (cfg : Config) (hwf : cfg.wf = true) (st0 : State) (i : Nat) (hi : i < st0.n)
    (hf : (st0.ps i).frozen = false) (name : String) (hnc : NotComputed cfg name)
    (hpers : st0.pers (st0.ps i).colour (.sym name) = true)
    (hone : cfg.integrators.count (.euler (st0.ps i).colour name) = 1)
    (R : Vec3) (hconst : ∀ S : State, (S.ps i).colour = (st0.ps i).colour → totalForce cfg S i (.user name) = R)
    (n : Nat) :
    ((run cfg n (init cfg st0)).ps i).tag (.sym name)
      = (st0.ps i).tag (.sym name) + ((n : Nat) : Rat) • (cfg.dt • R) :=
  (run_euler_const cfg hwf st0 i hi hf name hnc hpers hone R hconst n).1

/-- non-vacuity: `s` in the example has the constant rate 3: after 3 steps of `dt = 1/4` it is `9/4` -/
example : NotComputed Ex.cfg "s" ∧ Ex.st.pers (Ex.st.ps 0).colour (.sym "s") = true ∧
    Ex.cfg.integrators.count (.euler (Ex.st.ps 0).colour "s") = 1 ∧
    ((run Ex.cfg 3 (init Ex.cfg Ex.st)).ps 0).tag (.sym "s") = ⟨9/4, 0, 0⟩ := by
  refine ⟨⟨by decide, by decide⟩, by decide, by decide, by decide +kernel⟩

end Sympler.Dyn
