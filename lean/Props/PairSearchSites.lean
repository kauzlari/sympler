import Sympler.PairSearch
/-!
C01 — what the table-driven executable model of `CellLink::createDistances` enumerates, branch by branch: one colour inside one
cell (`branch0_iff`), two colours inside one cell (`branch1_*`), two different cells (`branch2_*`, `branch3_*`).

`Sympler.PairSearch.branchPairs` interprets the call-site table regenerated from cell.cpp.  The statements below are about that
interpretation, for all states, cells, colours and particle lists: for a link between two different cells that is acted on from both
sides, every combination (particle of colour c1 in the first cell, particle of colour c2 in the second cell) that is not
frozen-frozen is offered to `addPair`, the particle of the smaller (or equal) colour first, and nothing else is.
-/
namespace Sympler.PairSearch
open Sympler Sympler.Grid Sympler.Cells Sympler.Gen.CellTables Sympler.Gen.CreateDist

/-- all particles of colour `c` in cell `k`, free first -/
def allRefs (s : St) (k c : Nat) : List PRef := freeRefs s k c ++ frozenRefs s k c

theorem mem_freeRefs_frozen {s : St} {k c : Nat} {p : PRef} (h : p ∈ freeRefs s k c) : p.frozen = false := by
  unfold freeRefs at h
  obtain ⟨_, _, rfl⟩ := List.mem_map.mp h
  rfl

theorem mem_frozenRefs_frozen {s : St} {k c : Nat} {p : PRef} (h : p ∈ frozenRefs s k c) : p.frozen = true := by
  unfold frozenRefs at h
  obtain ⟨_, _, rfl⟩ := List.mem_map.mp h
  rfl

theorem mem_forDifferent {cp : CpCfg} {fl : Bool} {dir : Int} {fc sc : CellGeom} {ps1 ps2 : List PRef} {a b : Bool} {dist : V3 Rat}
    {q : PairRec} :
    q ∈ forDifferent cp fl dir fc sc ps1 ps2 a b dist ↔ ∃ p1 ∈ ps1, ∃ p2 ∈ ps2, q ∈ addPair cp fl dir fc sc p1 p2 a b dist := by
  unfold forDifferent
  simp only [List.mem_flatMap]

/-- the three calls of `createDistancesForDifferent` that `createDistances` makes for two colours -/
theorem mem_cross {cp : CpCfg} {dir : Int} {ca cb : CellGeom} {dist : V3 Rat} {s : St} {k1 c1 k2 c2 : Nat} {q : PairRec} :
    (q ∈ forDifferent cp false dir ca cb (freeRefs s k1 c1) (freeRefs s k2 c2) true true dist ∨
      q ∈ forDifferent cp true dir ca cb (freeRefs s k1 c1) (frozenRefs s k2 c2) true false dist ∨
      q ∈ forDifferent cp true dir ca cb (frozenRefs s k1 c1) (freeRefs s k2 c2) false true dist) ↔
    ∃ p1 ∈ allRefs s k1 c1, ∃ p2 ∈ allRefs s k2 c2, ¬ (p1.frozen = true ∧ p2.frozen = true) ∧
      q ∈ addPair cp (p1.frozen || p2.frozen) dir ca cb p1 p2 (!p1.frozen) (!p2.frozen) dist := by
  simp only [mem_forDifferent, allRefs]
  constructor
  · rintro (⟨p1, h1, p2, h2, h⟩ | ⟨p1, h1, p2, h2, h⟩ | ⟨p1, h1, p2, h2, h⟩)
    · have e1 := mem_freeRefs_frozen h1; have e2 := mem_freeRefs_frozen h2
      exact ⟨p1, List.mem_append_left _ h1, p2, List.mem_append_left _ h2, by simp [e1], by simpa [e1, e2] using h⟩
    · have e1 := mem_freeRefs_frozen h1; have e2 := mem_frozenRefs_frozen h2
      exact ⟨p1, List.mem_append_left _ h1, p2, List.mem_append_right _ h2, by simp [e1], by simpa [e1, e2] using h⟩
    · have e1 := mem_frozenRefs_frozen h1; have e2 := mem_freeRefs_frozen h2
      exact ⟨p1, List.mem_append_right _ h1, p2, List.mem_append_left _ h2, by simp [e2], by simpa [e1, e2] using h⟩
  · rintro ⟨p1, h1, p2, h2, hff, h⟩
    rcases List.mem_append.mp h1 with a1 | a1 <;> rcases List.mem_append.mp h2 with a2 | a2
    · have e1 := mem_freeRefs_frozen a1; have e2 := mem_freeRefs_frozen a2
      exact Or.inl ⟨p1, a1, p2, a2, by simpa [e1, e2] using h⟩
    · have e1 := mem_freeRefs_frozen a1; have e2 := mem_frozenRefs_frozen a2
      exact Or.inr (Or.inl ⟨p1, a1, p2, a2, by simpa [e1, e2] using h⟩)
    · have e1 := mem_frozenRefs_frozen a1; have e2 := mem_freeRefs_frozen a2
      exact Or.inr (Or.inr ⟨p1, a1, p2, a2, by simpa [e1, e2] using h⟩)
    · exact absurd ⟨mem_frozenRefs_frozen a1, mem_frozenRefs_frozen a2⟩ hff

theorem sites_branch2 : sites.filter (fun st => st.branch == 2) =
    [{ branch := 2, guard := 0, same := false, frozenList := false, dir := 1, cellA := 0, cellB := 1, la := (0, false, 1), lb := (1, false, 2), aoF := 2, aoS := 3 },
     { branch := 2, guard := 1, same := false, frozenList := true, dir := 1, cellA := 0, cellB := 1, la := (0, false, 1), lb := (1, true, 2), aoF := 1, aoS := 0 },
     { branch := 2, guard := 2, same := false, frozenList := true, dir := 1, cellA := 0, cellB := 1, la := (0, true, 1), lb := (1, false, 2), aoF := 0, aoS := 1 }] := by
  decide +kernel

theorem branch2_iff (s : St) (cp : CpCfg) (f g c1 c2 : Nat) (fc sc : CellGeom) (dist : V3 Rat) {q : PairRec} :
    q ∈ branchPairs s cp f g c1 c2 fc sc true true dist 2 ↔
    ∃ p1 ∈ allRefs s f c1, ∃ p2 ∈ allRefs s g c2, ¬ (p1.frozen = true ∧ p2.frozen = true) ∧
      q ∈ addPair cp (p1.frozen || p2.frozen) 1 fc sc p1 p2 (!p1.frozen) (!p2.frozen) dist := by
  rw [← mem_cross, branchPairs, sites_branch2]
  simp [evalSite, siteRefs, evalAo]

/-- **completeness, branch `c1 < c2`** (the first cell's particles have colour c1): every free-free, free-frozen and frozen-free
combination reaches `addPair` with the first cell's particle as first partner, into the free list iff both are free, and a frozen
partner is not acted on. -/
theorem branch2_complete (s : St) (cp : CpCfg) (f g c1 c2 : Nat) (fc sc : CellGeom) (dist : V3 Rat)
    {p1 p2 : PRef} (h1 : p1 ∈ allRefs s f c1) (h2 : p2 ∈ allRefs s g c2) (hff : ¬ (p1.frozen = true ∧ p2.frozen = true))
    {q : PairRec}
    (hq : q ∈ addPair cp (p1.frozen || p2.frozen) 1 fc sc p1 p2 (!p1.frozen) (!p2.frozen) dist) :
    q ∈ branchPairs s cp f g c1 c2 fc sc true true dist 2 :=
  (branch2_iff s cp f g c1 c2 fc sc dist).mpr ⟨p1, h1, p2, h2, hff, hq⟩

/-- **soundness, branch `c1 < c2`**: nothing else is enumerated: every entry comes from one such combination, is put into the frozen
list iff one partner is frozen, and acts exactly on the free partners -/
theorem branch2_sound (s : St) (cp : CpCfg) (f g c1 c2 : Nat) (fc sc : CellGeom) (dist : V3 Rat) {q : PairRec}
    (hq : q ∈ branchPairs s cp f g c1 c2 fc sc true true dist 2) :
    ∃ p1 ∈ allRefs s f c1, ∃ p2 ∈ allRefs s g c2, ¬ (p1.frozen = true ∧ p2.frozen = true) ∧
      q ∈ addPair cp (p1.frozen || p2.frozen) 1 fc sc p1 p2 (!p1.frozen) (!p2.frozen) dist :=
  (branch2_iff s cp f g c1 c2 fc sc dist).mp hq

theorem sites_branch3 : sites.filter (fun st => st.branch == 3) =
    [{ branch := 3, guard := 0, same := false, frozenList := false, dir := -1, cellA := 1, cellB := 0, la := (1, false, 2), lb := (0, false, 1), aoF := 3, aoS := 2 },
     { branch := 3, guard := 1, same := false, frozenList := true, dir := -1, cellA := 1, cellB := 0, la := (1, true, 2), lb := (0, false, 1), aoF := 0, aoS := 1 },
     { branch := 3, guard := 2, same := false, frozenList := true, dir := -1, cellA := 1, cellB := 0, la := (1, false, 2), lb := (0, true, 1), aoF := 1, aoS := 0 }] := by
  decide +kernel

theorem branch3_iff (s : St) (cp : CpCfg) (f g c1 c2 : Nat) (fc sc : CellGeom) (dist : V3 Rat) {q : PairRec} :
    q ∈ branchPairs s cp f g c1 c2 fc sc true true dist 3 ↔
    ∃ p1 ∈ allRefs s g c2, ∃ p2 ∈ allRefs s f c1, ¬ (p1.frozen = true ∧ p2.frozen = true) ∧
      q ∈ addPair cp (p1.frozen || p2.frozen) (-1) sc fc p1 p2 (!p1.frozen) (!p2.frozen) dist := by
  rw [← mem_cross, branchPairs, sites_branch3]
  simp [evalSite, siteRefs, evalAo, or_comm]

/-- **completeness, branch `c1 ≥ c2`** (the SECOND cell's particles, of colour c2, are the first partners): every free-free,
free-frozen and frozen-free combination reaches `addPair` with the second cell's particle as first partner and direction `−1`, into
the free list iff both are free, and a frozen partner is not acted on. -/
theorem branch3_complete (s : St) (cp : CpCfg) (f g c1 c2 : Nat) (fc sc : CellGeom) (dist : V3 Rat)
    {p1 p2 : PRef} (h1 : p1 ∈ allRefs s g c2) (h2 : p2 ∈ allRefs s f c1) (hff : ¬ (p1.frozen = true ∧ p2.frozen = true))
    {q : PairRec}
    (hq : q ∈ addPair cp (p1.frozen || p2.frozen) (-1) sc fc p1 p2 (!p1.frozen) (!p2.frozen) dist) :
    q ∈ branchPairs s cp f g c1 c2 fc sc true true dist 3 :=
  (branch3_iff s cp f g c1 c2 fc sc dist).mpr ⟨p1, h1, p2, h2, hff, hq⟩

/-- **soundness, branch `c1 ≥ c2`**: nothing else is enumerated: every entry comes from one such combination, is put into the frozen
list iff one partner is frozen, and acts exactly on the free partners -/
theorem branch3_sound (s : St) (cp : CpCfg) (f g c1 c2 : Nat) (fc sc : CellGeom) (dist : V3 Rat) {q : PairRec}
    (hq : q ∈ branchPairs s cp f g c1 c2 fc sc true true dist 3) :
    ∃ p1 ∈ allRefs s g c2, ∃ p2 ∈ allRefs s f c1, ¬ (p1.frozen = true ∧ p2.frozen = true) ∧
      q ∈ addPair cp (p1.frozen || p2.frozen) (-1) sc fc p1 p2 (!p1.frozen) (!p2.frozen) dist :=
  (branch3_iff s cp f g c1 c2 fc sc dist).mp hq

theorem sites_branch1 : sites.filter (fun st => st.branch == 1) =
    [{ branch := 1, guard := 0, same := false, frozenList := false, dir := 0, cellA := 0, cellB := 0, la := (0, false, 1), lb := (0, false, 2), aoF := 1, aoS := 1 },
     { branch := 1, guard := 0, same := false, frozenList := true, dir := 0, cellA := 0, cellB := 0, la := (0, false, 1), lb := (0, true, 2), aoF := 1, aoS := 0 },
     { branch := 1, guard := 0, same := false, frozenList := true, dir := 0, cellA := 0, cellB := 0, la := (0, true, 1), lb := (0, false, 2), aoF := 0, aoS := 1 }] := by
  decide +kernel

theorem branch1_iff (s : St) (cp : CpCfg) (f g c1 c2 : Nat) (fc sc : CellGeom) (aF aS : Bool) (dist : V3 Rat) {q : PairRec} :
    q ∈ branchPairs s cp f g c1 c2 fc sc aF aS dist 1 ↔
    ∃ p1 ∈ allRefs s f c1, ∃ p2 ∈ allRefs s f c2, ¬ (p1.frozen = true ∧ p2.frozen = true) ∧
      q ∈ addPair cp (p1.frozen || p2.frozen) 0 fc fc p1 p2 (!p1.frozen) (!p2.frozen) dist := by
  rw [← mem_cross, branchPairs, sites_branch1]
  simp [evalSite, siteRefs, evalAo]

/-- **completeness, same cell, `c1 < c2`** (whatever the acts-on flags of the link): every free-free, free-frozen and frozen-free
combination reaches `addPair` with the particle of colour c1 as first partner, into the free list iff both are free, and a frozen
partner is not acted on. -/
theorem branch1_complete (s : St) (cp : CpCfg) (f g c1 c2 : Nat) (fc sc : CellGeom) (aF aS : Bool) (dist : V3 Rat)
    {p1 p2 : PRef} (h1 : p1 ∈ allRefs s f c1) (h2 : p2 ∈ allRefs s f c2) (hff : ¬ (p1.frozen = true ∧ p2.frozen = true))
    {q : PairRec}
    (hq : q ∈ addPair cp (p1.frozen || p2.frozen) 0 fc fc p1 p2 (!p1.frozen) (!p2.frozen) dist) :
    q ∈ branchPairs s cp f g c1 c2 fc sc aF aS dist 1 :=
  (branch1_iff s cp f g c1 c2 fc sc aF aS dist).mpr ⟨p1, h1, p2, h2, hff, hq⟩

/-- **soundness, same cell, `c1 < c2`**: nothing else is enumerated: every entry comes from one such combination, is put into the frozen
list iff one partner is frozen, and acts exactly on the free partners -/
theorem branch1_sound (s : St) (cp : CpCfg) (f g c1 c2 : Nat) (fc sc : CellGeom) (aF aS : Bool) (dist : V3 Rat) {q : PairRec}
    (hq : q ∈ branchPairs s cp f g c1 c2 fc sc aF aS dist 1) :
    ∃ p1 ∈ allRefs s f c1, ∃ p2 ∈ allRefs s f c2, ¬ (p1.frozen = true ∧ p2.frozen = true) ∧
      q ∈ addPair cp (p1.frozen || p2.frozen) 0 fc fc p1 p2 (!p1.frozen) (!p2.frozen) dist :=
  (branch1_iff s cp f g c1 c2 fc sc aF aS dist).mp hq

/-- `createDistancesForSame`: exactly the pairs (earlier, later) of the list -/
theorem mem_forSame {cp : CpCfg} {fl : Bool} {dir : Int} {c : CellGeom} {dist : V3 Rat} {q : PairRec} (l : List PRef) :
    q ∈ forSame cp fl dir c dist l ↔ ∃ p1 p2, [p1, p2].Sublist l ∧ q ∈ addPair cp fl dir c c p1 p2 true true dist := by
  induction l with
  | nil => simp [forSame]
  | cons i rest ih =>
    simp only [forSame, List.mem_append, List.mem_flatMap, ih]
    constructor
    · rintro (⟨j, hj, h⟩ | ⟨p1, p2, hs, h⟩)
      · exact ⟨i, j, List.cons_sublist_cons.mpr (List.singleton_sublist.mpr hj), h⟩
      · exact ⟨p1, p2, List.Sublist.cons _ hs, h⟩
    · rintro ⟨p1, p2, hs, h⟩
      rcases List.sublist_cons_iff.mp hs with h' | ⟨r, hr, h'⟩
      · exact Or.inr ⟨p1, p2, h', h⟩
      · have e1 : p1 = i := by simpa using (List.cons.inj hr).1
        have e2 : r = [p2] := by simpa using (List.cons.inj hr).2.symm
        subst e1; subst e2
        exact Or.inl ⟨p2, List.singleton_sublist.mp h', h⟩

theorem sites_branch0 : sites.filter (fun st => st.branch == 0) =
    [{ branch := 0, guard := 0, same := true, frozenList := false, dir := 0, cellA := 0, cellB := 0, la := (0, false, 1), lb := (0, false, 1), aoF := 1, aoS := 1 },
     { branch := 0, guard := 0, same := false, frozenList := true, dir := 0, cellA := 0, cellB := 0, la := (0, false, 1), lb := (0, true, 1), aoF := 1, aoS := 0 }] := by
  decide +kernel

/-- **one colour inside one cell**: every unordered pair of free particles exactly in list order (earlier particle first), every
free-frozen combination with the free particle first, and nothing else -/
theorem branch0_iff (s : St) (cp : CpCfg) (f g c1 c2 : Nat) (fc sc : CellGeom) (aF aS : Bool) (dist : V3 Rat) (q : PairRec) :
    q ∈ branchPairs s cp f g c1 c2 fc sc aF aS dist 0 ↔
      (∃ p1 p2, [p1, p2].Sublist (freeRefs s f c1) ∧ q ∈ addPair cp false 0 fc fc p1 p2 true true dist) ∨
      (∃ p1 ∈ freeRefs s f c1, ∃ p2 ∈ frozenRefs s f c1, q ∈ addPair cp true 0 fc fc p1 p2 true false dist) := by
  rw [branchPairs, sites_branch0, ← mem_forSame, ← mem_forDifferent]
  simp [evalSite, siteRefs, evalAo]

end Sympler.PairSearch
