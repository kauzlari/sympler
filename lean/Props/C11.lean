import Sympler.FuncCompileLemmas
import Sympler.Gen.FuncCompileGen

/-!
# C11 — concurrently running simulations do not exchange compiled expressions

Model: `Sympler/FuncCompile.lean` (`FunctionCompiler::compile` / `setParserAndCompile` run by
several processes on one temporary directory, one system call per scheduling step, the two
`stat` calls of the probe loop being separate steps).  `Gen.FuncCompile.nameUsesPid` is
extracted from the source: does the temporary file name contain the process id?

A configuration is a list `cfg` of `(pid, nfun)`; `mkProcs cfg` are the freshly started
processes; a schedule is any `List Nat` of process indices.  The initial directory `init` is
ARBITRARY in all general theorems: stale files of dead processes may sit under any name,
also under names a live process is going to try (even with its own pid part, e.g. after pid
re-use) — the `stat` loop skips them and, with the pid in the name, nobody else can create
or remove a file in the window between the `stat`s and the `open`.  The only hypothesis is that the live processes have pairwise distinct pids
(an operating-system guarantee for processes on one machine).

Witness schedules (replay seeds, indices 0 = process A (pid 10), 1 = process B (pid 20);
old naming without pid, empty directory, one expression each; a process needs two steps
for a successful probe):

* wrong code, silently: `0 0 1 1 0 0 1 1 0 0 0`
  (A probe,probeC; B probe,probeC; A openC,writeC; B openC (truncates A's file),writeC;
   A gcc (compiles B's text), rmC, dlopen)  ⇒  A is bound to B's expression;
   continued by `0 1 1` (A rmSo; B gcc fails, rmC): A `done` with B's code, B `error`.
* error: `0 0 1 1 1 1 0 0 0 0 1 1`
  (both probe; B openC,writeC; A openC,writeC,gcc,rmC (removes the shared .c); B gcc fails, rmC)
   ⇒  B ends with "Failed to compile the function using gcc".
-/
namespace Sympler.FuncCompile
open Sympler

/-- The generated step table is the step order the model implements. -/
theorem C11_gen_order : Gen.FuncCompile.stepOrder = stepOrder := by decide +kernel

/-- **Isolation.**  With the naming extracted from the source (`nameUsesPid`, must be `true`),
whatever the configuration, initial directory and schedule: nobody has ended with an error; every
binding of every process is code generated from its own expression of that index; and when all
have finished, the directory is exactly the initial one (temporary files removed, stale files
untouched). -/
theorem C11_isolation (cfg : List (Nat × Nat)) (hpid : (cfg.map (·.1)).Nodup)
    (init : FS) (sched : List Nat) :
    let w := run Gen.FuncCompile.nameUsesPid init (mkProcs cfg) sched
    w.procs.map (fun p => (p.pid, p.nfun)) = cfg ∧
    (∀ p ∈ w.procs, p.status ≠ .error) ∧
    (∀ p ∈ w.procs, ∀ b ∈ p.binds, b.2 = Content.tag p.pid b.1) ∧
    (∀ p ∈ w.procs, p.status = .done →
      p.binds = (List.range p.nfun).map (fun f => (f, Content.tag p.pid f))) ∧
    ((∀ p ∈ w.procs, p.status = .done) → ∀ n, w.fs.get n = init.get n) := by
  have hflag : Gen.FuncCompile.nameUsesPid = true := rfl
  rw [hflag]
  intro w
  have hinv : Inv init cfg w := runFrom_Inv hpid sched (Inv_init init cfg)
  have hloc : ∀ p ∈ w.procs, LInv init w.fs p := by
    intro p hp
    obtain ⟨i, hi⟩ := List.mem_iff_getElem?.mp hp
    exact hinv.loc i p hi
  refine ⟨hinv.consts, fun p hp => (hloc p hp).2.2.1, fun p hp b hb => ?_, fun p hp hd => ?_,
    fun hd n => Inv_done_clean hinv hd n⟩
  · rw [(hloc p hp).2.1] at hb
    obtain ⟨f, -, rfl⟩ := List.mem_map.mp hb
    rfl
  · obtain ⟨-, hb, -, -, hdone, -⟩ := hloc p hp
    rw [hb, ← (hdone hd).1, boundCount, hd]

/-- **Progress.**  Process number `i` has finished as soon as it has been scheduled
`8 * nfun + 2 * (number of initial files)` times, whatever else the schedule does: at most
8 system calls per expression plus at most 2 per stale file it has to skip. -/
theorem C11_progress (cfg : List (Nat × Nat)) (hpid : (cfg.map (·.1)).Nodup)
    (init : FS) (sched : List Nat) (i pid nfun : Nat) (hi : cfg[i]? = some (pid, nfun))
    (hfair : 8 * nfun + 2 * init.size ≤ sched.count i) :
    ∃ p, (run Gen.FuncCompile.nameUsesPid init (mkProcs cfg) sched).procs[i]? = some p ∧
      p.pid = pid ∧ p.nfun = nfun ∧ p.status = .done := by
  have hflag : Gen.FuncCompile.nameUsesPid = true := rfl
  rw [hflag]
  have h0 : Inv init cfg ⟨init, mkProcs cfg⟩ := Inv_init init cfg
  have hinv := runFrom_Inv hpid sched h0
  obtain ⟨p, hp, hc⟩ : ∃ p, (run true init (mkProcs cfg) sched).procs[i]? = some p ∧
      (p.pid, p.nfun) = (pid, nfun) := by
    have := hinv.consts ▸ hi
    rwa [List.getElem?_map, Option.map_eq_some_iff] at this
  cases hc
  refine ⟨p, hp, rfl, rfl, ?_⟩
  -- the measure of `p` is at most what process `i` started with less the times it was scheduled: 0
  have hm := runFrom_measureAt hpid sched h0 i
  have hp0 : (mkProcs cfg)[i]? = some (Proc.init p.pid p.nfun) := by
    rw [mkProcs, List.getElem?_map, hi]; rfl
  simp only [measureAt, hp0, show (runFrom true ⟨init, mkProcs cfg⟩ sched).procs[i]? = some p from hp] at hm
  have hl := hinv.loc i p hp
  cases hs : p.status with
  | done => rfl
  | error => exact absurd hs hl.2.2.1
  | running =>
    have h1 : 1 ≤ measure init p := by rw [measure, hs]; exact callsLeft_pos ..
    have h2 := measure_init_le init p.pid p.nfun
    omega

/-- Under every schedule that is fair enough to each process everybody finishes and the directory
is the initial one again. -/
theorem C11_progress_all (cfg : List (Nat × Nat)) (hpid : (cfg.map (·.1)).Nodup)
    (init : FS) (sched : List Nat)
    (hfair : ∀ i pid nfun, cfg[i]? = some (pid, nfun) → 8 * nfun + 2 * init.size ≤ sched.count i) :
    let w := run Gen.FuncCompile.nameUsesPid init (mkProcs cfg) sched
    (∀ p ∈ w.procs, p.status = .done) ∧ ∀ n, w.fs.get n = init.get n := by
  intro w
  have hinv : Inv init cfg w := runFrom_Inv hpid sched (Inv_init init cfg)
  have hall : ∀ p ∈ w.procs, p.status = .done := by
    intro p hp
    obtain ⟨i, hi⟩ := List.mem_iff_getElem?.mp hp
    have hci := hinv.getElem? hi
    obtain ⟨p', hp', -, -, hd⟩ := C11_progress cfg hpid init sched i p.pid p.nfun hci
      (hfair i p.pid p.nfun hci)
    cases hi.symm.trans hp'
    exact hd
  exact ⟨hall, Inv_done_clean hinv hall⟩

/-- Such a schedule exists for every configuration and every initial directory, so the "all done ⇒
directory restored" part of `C11_isolation` is never vacuous. -/
theorem C11_progress_exists (cfg : List (Nat × Nat)) (hpid : (cfg.map (·.1)).Nodup) (init : FS) :
    ∃ sched, ∀ p ∈ (run Gen.FuncCompile.nameUsesPid init (mkProcs cfg) sched).procs,
      p.status = .done := by
  refine ⟨seqSched cfg 0 init.size, (C11_progress_all cfg hpid init _ ?_).1⟩
  intro i pid nfun hi
  have := seqSched_count cfg 0 init.size i (pid, nfun) hi
  simpa using this

/-- The coarser scheduling unit offered by the driver (`atomicprobe 1`: the whole `while`
condition is one step) only produces runs that the fine-grained model also produces, so
`C11_isolation` covers it. -/
theorem C11_coarse_refines (u : Bool) (init : FS) (procs : List Proc) (sched : List Nat) :
    ∃ sched', runCoarse u init procs sched = run u init procs sched' :=
  foldl_stepCoarse_fine u sched ⟨init, procs⟩

/-! ## the naming without pid (the code before the fix) -/

/-- **Race, wrong code executed silently.**  Old naming: after the schedule below process 10 has
loaded, without any error, the code generated from process 20's expression; when both have run to
the end, 10 is `done` with the wrong code and 20 has failed. -/
theorem C11_race_witness :
    let sched := [0, 0, 1, 1, 0, 0, 1, 1, 0, 0, 0]
    let w := run false FS.empty (mkProcs [(10, 1), (20, 1)]) sched
    let w' := run false FS.empty (mkProcs [(10, 1), (20, 1)]) (sched ++ [0, 1, 1])
    w.procs.map (fun p => (p.pid, p.status, p.binds)) =
      [(10, .running, [(0, Content.tag 20 0)]), (20, .running, [])] ∧
    w'.procs.map (fun p => (p.pid, p.status, p.binds)) =
      [(10, .done, [(0, Content.tag 20 0)]), (20, .error, [])] := by
  decide +kernel

/-- **Race, spurious error.**  Same setting: process 10 removes the `.c` file both use before
process 20 has compiled it; 20 ends with an error (10 is fine). -/
theorem C11_race_witness_error :
    let sched := [0, 0, 1, 1, 1, 1, 0, 0, 0, 0, 1, 1]
    let w := run false FS.empty (mkProcs [(10, 1), (20, 1)]) sched
    w.procs.map (fun p => (p.pid, p.status, p.pc)) =
      [(10, .running, .dlopen), (20, .error, .rmC)] := by
  decide +kernel

/-- The two race schedules with the whole probe loop condition as one step. -/
theorem C11_race_witness_coarse :
    (runCoarse false FS.empty (mkProcs [(10, 1), (20, 1)]) [0, 1, 0, 0, 1, 1, 0, 0, 0]).procs.map
        (fun p => (p.pid, p.status, p.binds)) =
      [(10, .running, [(0, Content.tag 20 0)]), (20, .running, [])] ∧
    (runCoarse false FS.empty (mkProcs [(10, 1), (20, 1)]) [0, 1, 1, 1, 0, 0, 0, 0, 1, 1]).procs.map
        (fun p => (p.pid, p.status, p.pc)) =
      [(10, .running, .dlopen), (20, .error, .rmC)] := by
  decide +kernel

/-! ## non-vacuity: concrete runs with the pid in the name -/

/-- the first witness schedule, run to the end: each process gets its own code and the directory
ends empty -/
example :
    let w := run true FS.empty (mkProcs [(10, 1), (20, 1)])
      [0, 0, 1, 1, 0, 0, 1, 1, 0, 0, 0, 0, 1, 1, 1, 1]
    w.procs.map (fun p => (p.pid, p.status, p.binds)) =
      [(10, .done, [(0, Content.tag 10 0)]), (20, .done, [(0, Content.tag 20 0)])] ∧
    w.fs.keys = [] := by
  decide +kernel

/-- adversarial setting: stale files sit exactly on the names the live processes try first
(`10_0.c`, `10_1.so` with foreign content, `20_0.so`), and an old-style file `0.c`; process 10
compiles two expressions; lock-step schedule.  Everybody gets his own code, the four stale
files and nothing else remain. -/
example :
    let init : FS := [(⟨some 10, 0, .c⟩, ⟨.stale 0, .tag 10 0⟩), (⟨some 10, 1, .so⟩, ⟨.stale 1, .tag 3 4⟩),
      (⟨none, 0, .c⟩, ⟨.stale 2, .empty⟩), (⟨some 20, 0, .so⟩, ⟨.stale 3, .tag 10 0⟩)]
    let w := run true init (mkProcs [(10, 2), (20, 1)])
      ([0, 1, 0, 1, 0, 1, 0, 1, 0, 1, 0, 1, 0, 1, 0, 1, 0, 1, 0, 1] ++ List.replicate 12 0)
    w.procs.map (fun p => (p.pid, p.status, p.binds)) =
      [(10, .done, [(0, Content.tag 10 0), (1, Content.tag 10 1)]), (20, .done, [(0, Content.tag 20 0)])] ∧
    w.fs.keys = init.keys := by
  decide +kernel

example : ([(10, 2), (20, 1)].map (·.1)).Nodup := by decide +kernel

/-- **the shape of the temporary file name** (regenerated from function_compiler.cpp): the model's naming `(pid, counter) ↦ name` is
injective only if the decimal process id and the decimal counter are separated by a non-digit text in EVERY statement that builds
a name.  Without the separator the names of (pid 2, counter 10) and (pid 21, counter 0) coincide - second statement. -/
theorem C11_name_format :
    Gen.FuncCompile.nameUsesPid = true ∧ Gen.FuncCompile.nameSeparatesPidAndCounter = true ∧
    (toString 2 ++ toString 10 = toString 21 ++ toString 0) ∧ (toString 2 ++ "_" ++ toString 10 ≠ toString 21 ++ "_" ++ toString 0) := by
  decide +kernel

/-- **name before counter** (regenerated): the model's `probe` uses the counter value as the name and moves the counter on; the code does
so only if every name is built BEFORE the increment that follows it.  With the increment first, the name chosen after a collision
is the first choice of the process's NEXT function, whose `dlopen` then returns the object that is still loaded. -/
theorem C11_counter_order : Gen.FuncCompile.nameBuiltBeforeCounterIncrement = true := by decide +kernel

end Sympler.FuncCompile
