import Sympler.ExprUsualLemmas
import Sympler.ExprEmitLemmas
import Sympler.ExprHistory

/-!
# C03 — a runtime-compiled expression computes what the expression language defines

Model: `Sympler/Expr.lean` (parser `parse`, interpreter `denote` = `value()`, emitter `toC` = `toC()`,
C reader `parseC`/`evalC` = the specification of what gcc makes of the emitted text).

The model describes /repo after the commits ad91e0f (no `int`-typed sub-expressions in the generated C)
and 461b1b3 (unbalanced / nested empty brackets are ordinary errors, NULL vector / tensor variables in
an exponent throw a `gError`).  What the code did before is recorded, on explicitly named `…Old`
definitions (`Sympler/ExprHistory.lean`), by the `C03_old_…_witness` theorems at the end.
-/
namespace Sympler.Expr

/-- The value of one compiled component: `evalC ∘ parseC` makes `x`, the interpreter's value, of the
emitted string `s`. -/
def CompiledAgrees (env : Env) (s : String) (x : Rat) : Prop :=
  evalC env s = .ok x

theorem evalC_of_good {env : Env} {e : CE} {x : Rat} (hd : D e) (ha : Agree env e x) :
    CompiledAgrees env (String.ofList e.render) x := by
  unfold CompiledAgrees evalC
  rw [parseC_render hd.can.ok]
  exact ha.1

/-- **compiled = interpreter.**  For every tree `t` whose library functions carry the C names of the
generated table (`Tree.wf`; every tree built by `parse` is one) and every environment (variable values,
declared symbols, oracles for the libm functions): every emitted string, read as C and evaluated, gives
the corresponding component of the interpreter's value, without any side condition.  Covers all operators
and functions, the index expressions of `:`, `°`, `@`, `det`, the unrolling of `^` for positive / zero /
negative integral constant exponents, and broadcasting. -/
theorem C03_emit_sound (env : Env) (t : Tree) (hwf : t.wf = true) (strs : List String) (v : Val Rat)
    (hc : toC env t = .ok strs) (hv : denote env t = .ok v) :
    strs.length = v.toList.length ∧ ∀ p ∈ strs.zip v.toList, CompiledAgrees env p.1 p.2 := by
  unfold toC at hc
  obtain ⟨c, hc', hs⟩ := bind_ok hc
  cases hs
  exact (toCE_agree env t c v hc' hv).toList.zip_map (fun _ _ => evalC_of_good)
    (toCE_dbl env t hwf c hc').toList

theorem mapM_ok_of_zip {α β ε : Type} {f : α → Except ε β} : ∀ {l : List α} {r : List β},
    l.length = r.length → (∀ p ∈ l.zip r, f p.1 = .ok p.2) → l.mapM f = .ok r
  | [], [], _, _ => rfl
  | a :: l, b :: r, hl, h => by
    rw [List.mapM_cons, h (a, b) (List.mem_cons_self ..),
      mapM_ok_of_zip (Nat.succ.inj hl) fun p hp => h p (List.mem_cons_of_mem _ hp)]
    rfl

/-- `C03_emit_sound` as one equation -/
theorem toC_evalC {env : Env} {t : Tree} (hwf : t.wf = true) {v : Val Rat} (hv : denote env t = .ok v)
    (hc : (toC env t).toBool = true) :
    (do let strs ← toC env t; strs.mapM (evalC env)) = .ok v.toList := by
  cases h : toC env t with
  | error e => rw [h] at hc; cases hc
  | ok strs =>
    obtain ⟨hl, hz⟩ := C03_emit_sound env t hwf strs v h hv
    exact mapM_ok_of_zip hl hz

/-- `C03_emit_sound` for every accepted expression text -/
theorem C03_emit_sound_parsed (env : Env) (text : String) (t : Tree)
    (hp : parse (env.decls.map (·.name)) text = .ok t) (strs : List String) (v : Val Rat)
    (hc : toC env t = .ok strs) (hv : denote env t = .ok v) :
    strs.length = v.toList.length ∧ ∀ p ∈ strs.zip v.toList, CompiledAgrees env p.1 p.2 :=
  C03_emit_sound env t (parse_wf hp) strs v hc hv

/-- **No integer-typed division is emitted.**  Whether or not the interpreter has a value, every emitted
string is read by the C reader as an expression of C type `double` in which no division has two `int`
operands.  (Purely syntactic.) -/
theorem C03_emit_no_int_division (env : Env) (t : Tree) (hwf : t.wf = true) (strs : List String)
    (hc : toC env t = .ok strs) :
    ∀ s ∈ strs, ∃ cx, parseC s = .ok cx ∧ cx.isInt = false ∧ cx.noIntDiv = true := by
  unfold toC at hc
  obtain ⟨c, hc', hs⟩ := bind_ok hc
  cases hs
  intro s hs
  obtain ⟨e, he, rfl⟩ := List.mem_map.mp hs
  have hd := (toCE_dbl env t hwf c hc').toList e he
  exact ⟨e.abs, parseC_render hd.can.ok, hd.dbl, hd.nid⟩

/-- `C03_emit_no_int_division` for what the parser accepts -/
theorem C03_emit_no_int_division_parsed (env : Env) (text : String) (t : Tree)
    (hp : parse (env.decls.map (·.name)) text = .ok t) (strs : List String)
    (hc : toC env t = .ok strs) :
    ∀ s ∈ strs, ∃ cx, parseC s = .ok cx ∧ cx.isInt = false ∧ cx.noIntDiv = true :=
  C03_emit_no_int_division env t (parse_wf hp) strs hc

/-- The C value of an emitted string is never an outcome of an integer division (`intTrunc`: truncating,
`intDiv0`: undefined behaviour), whatever the variable values, provided the libm oracles do not return
such an error themselves (`OraclesClean`; those of the driver only return `opaque`). -/
theorem C03_emit_never_int_error (env : Env) (henv : OraclesClean env) (t : Tree) (hwf : t.wf = true)
    (strs : List String) (hc : toC env t = .ok strs) :
    ∀ s ∈ strs, evalC env s ≠ .error .intTrunc ∧ evalC env s ≠ .error .intDiv0 := by
  intro s hs
  obtain ⟨cx, hcx, _, hn⟩ := C03_emit_no_int_division env t hwf strs hc s hs
  have h := evalCX_noIntDiv henv cx hn
  unfold evalC
  rw [hcx]
  exact ⟨fun he => h _ he (Or.inl rfl), fun he => h _ he (Or.inr rfl)⟩

/-- **Totality.**  `parse` is a total function (structural recursion on fuel); the fuel `length + 1` is
never exhausted, neither that of `parseCore` nor that of the bracket loop: the result is a tree or one of
the `gError`s of the real code.
Side condition on the generated table (`factories_names_noparen`): no operator or function has the empty
name. -/
theorem C03_total (syms : List String) (text : String) :
    (∃ t, parse syms text = .ok t) ∨ (∃ e, parse syms text = .error e ∧ e ≠ .fuel) := by
  cases h : parse syms text with
  | ok t => exact Or.inl ⟨t, rfl⟩
  | error e =>
    refine Or.inr ⟨e, rfl, ?_⟩
    intro he
    subst he
    exact parse_ne_fuel syms text h

/-! ## The parser: precedence and associativity -/

/-- **The grammar of the parser.**  For every surface expression `e` of the grammar `SE.ok` — one
precedence level per binary operator in the order of the GENERATED table (`+ - * / : ° @ ^`, loosest
first), every operator left-associative, a unary minus in front of a term of level `*` or tighter,
function applications `f(e)`, any number of redundant brackets, atoms admitted by `SE.atomOK` —
the parser reads the text `e.render` as exactly the tree `e` stands for (errors of unresolvable atoms
included, in the same order).
Side conditions tying the statement to the generated table: `factories_split` (the binary operators come
first, in the order that defines `BinOp.prec`, one character each; a changed priority or registration
order falsifies it), `factories_names_noparen`.  That every registered function satisfies the hypothesis
`SE.fnOK` inside `SE.ok` is the separate fact `table_functions_ok`.
EXCLUDED by `SE.atomOK`: atoms in which the parser's own search finds an operator or a function name
(`Temp`, `expo`, `absa`, `a-b`, `1e-5`); see `C03_name_clash_witness`. -/
theorem C03_parse_render_sym (syms : List String) (e : SE) (hok : e.ok = true) :
    parse syms (String.ofList e.render) = e.toTree (fun n => syms.contains n) := by
  unfold parse
  rw [String.toList_ofList]
  exact parse_render_sym _ _ e hok (Nat.lt_succ_self _)

/-- **Usual precedence and associativity.**  For every surface expression `u` of the USUAL grammar
`SE.okU` (`+ -` one level and `* /` one level, both left-associative; unary minus as the sign of the first
term of a sum; atoms are names, numbers, `[v]`, `{T}`, function applications and bracketed expressions):
the parser's reading of the text `u.render` REFINES the usual reading `u`: either some atom cannot be
resolved, then both report the same error; or whenever the interpreter evaluates the parser's tree to a
value it evaluates the usual tree to the same value (the parser groups `a-b+c-d` as `(a-b)+(c-d)` and
`a/b*c/d` as `(a/b)*(c/d)`; the values agree over the rationals, division by zero being an error on both
sides).

The converse direction fails: the parser's grouping can be ill-typed where the usual one is not
(`C03_usual_reading_rejected_witness`) — the expression is then rejected, not misread. -/
theorem C03_parse_render (env : Env) (u : SE) (hu : u.okU = true) :
    Refines env (parse (env.decls.map (·.name)) (String.ofList u.render))
      (u.toTree (fun n => (env.decls.map (·.name)).contains n)) := by
  have h1 := C03_parse_render_sym (env.decls.map (·.name)) u.resym (SE.ok_resym u hu)
  rw [SE.render_resym] at h1
  rw [h1]
  exact SE.refines_resym env _ u

/-- `Refines` spelled out for an accepted expression -/
theorem C03_parse_render_value (env : Env) (u : SE) (hu : u.okU = true) (ts : Tree) (v : Val Rat)
    (hp : parse (env.decls.map (·.name)) (String.ofList u.render) = .ok ts)
    (hv : denote env ts = .ok v) :
    ∃ tu, u.toTree (fun n => (env.decls.map (·.name)).contains n) = .ok tu ∧ denote env tu = .ok v := by
  have h := C03_parse_render env u hu
  rw [hp] at h
  cases htu : u.toTree (fun n => (env.decls.map (·.name)).contains n) with
  | error e => rw [htu] at h; exact h.elim
  | ok tu => rw [htu] at h; exact ⟨tu, rfl, h v hv⟩

/-! ## `denote` is the documented meaning (`sympler --help expressions`)

`denote` transcribes the interpreter `value()`; operator by operator, this transcription is the documented
mathematical meaning, with explicit indices (`i j k : Fin 3`, row `i`, column `j`). -/

def V3.get {α : Type} (a : V3 α) (i : Fin 3) : α :=
  match i with
  | 0 => a.x | 1 => a.y | 2 => a.z

def M9.get {α : Type} (a : M9 α) (i j : Fin 3) : α :=
  match i, j with
  | 0, 0 => a.xx | 0, 1 => a.xy | 0, 2 => a.xz
  | 1, 0 => a.yx | 1, 1 => a.yy | 1, 2 => a.yz
  | 2, 0 => a.zx | 2, 1 => a.zy | 2, 2 => a.zz

/-- `Σ_{i<3} f i` -/
def sum3 (f : Fin 3 → Rat) : Rat := f 0 + f 1 + f 2

theorem fin3_forall {P : Fin 3 → Prop} (h0 : P 0) (h1 : P 1) (h2 : P 2) : ∀ i, P i := by
  intro ⟨i, hi⟩
  have : i = 0 ∨ i = 1 ∨ i = 2 := by omega
  rcases this with h | h | h <;> subst h <;> assumption

/-- `Vector:Vector` is the scalar product `Σᵢ aᵢ bᵢ` -/
theorem C03_denote_meaning_contract_vv (env : Env) (a b : V3 Rat) :
    evalBin env .contract (.v a) (.v b) = .ok (.s (sum3 fun i => a.get i * b.get i)) := rfl

/-- `Matrix:Matrix` is the full contraction `Σᵢ Σⱼ aᵢⱼ bᵢⱼ` -/
theorem C03_denote_meaning_contract_tt (env : Env) (a b : M9 Rat) :
    evalBin env .contract (.t a) (.t b) =
      .ok (.s (sum3 fun i => sum3 fun j => a.get i j * b.get i j)) := by
  show Except.ok (Val.s (dot9 a b)) = _
  simp only [dot9, sum3, M9.get]
  congr 2
  grind

/-- `Matrix:Vector` is the matrix-vector product `rᵢ = Σⱼ aᵢⱼ bⱼ` -/
theorem C03_denote_meaning_contract_tv (env : Env) (a : M9 Rat) (b : V3 Rat) :
    ∃ r, evalBin env .contract (.t a) (.v b) = .ok (.v r) ∧
      ∀ i, r.get i = sum3 fun j => a.get i j * b.get j :=
  ⟨matVec a b, rfl, fin3_forall rfl rfl rfl⟩

/-- `°` is the matrix product `rᵢⱼ = Σₖ aᵢₖ bₖⱼ` -/
theorem C03_denote_meaning_dot (env : Env) (a b : M9 Rat) :
    ∃ r, evalBin env .dot (.t a) (.t b) = .ok (.t r) ∧
      ∀ i j, r.get i j = sum3 fun k => a.get i k * b.get k j :=
  ⟨matMul a b, rfl, fin3_forall (fin3_forall rfl rfl rfl) (fin3_forall rfl rfl rfl)
    (fin3_forall rfl rfl rfl)⟩

/-- `@` is the outer product `rᵢⱼ = aᵢ bⱼ` -/
theorem C03_denote_meaning_outer (env : Env) (a b : V3 Rat) :
    ∃ r, evalBin env .outer (.v a) (.v b) = .ok (.t r) ∧ ∀ i j, r.get i j = a.get i * b.get j :=
  ⟨outer3 a b, rfl, fin3_forall (fin3_forall rfl rfl rfl) (fin3_forall rfl rfl rfl)
    (fin3_forall rfl rfl rfl)⟩

/-- `T` is the transpose `rᵢⱼ = aⱼᵢ` -/
theorem C03_denote_meaning_T (env : Env) (a : M9 Rat) :
    ∃ r, evalFn env .T (.t a) = .ok (.t r) ∧ ∀ i j, r.get i j = a.get j i :=
  ⟨_, rfl, fin3_forall (fin3_forall rfl rfl rfl) (fin3_forall rfl rfl rfl) (fin3_forall rfl rfl rfl)⟩

/-- `det` is the Leibniz formula: the sum over the six permutations of `{0,1,2}` with their signs -/
theorem C03_denote_meaning_det (env : Env) (a : M9 Rat) :
    evalFn env .det (.t a) = .ok (.s (
      a.get 0 0 * a.get 1 1 * a.get 2 2 - a.get 0 0 * a.get 1 2 * a.get 2 1
      - a.get 0 1 * a.get 1 0 * a.get 2 2 + a.get 0 1 * a.get 1 2 * a.get 2 0
      + a.get 0 2 * a.get 1 0 * a.get 2 1 - a.get 0 2 * a.get 1 1 * a.get 2 0)) := by
  show Except.ok (Val.s (det9 a)) = _
  simp only [det9, M9.get]
  congr 2
  grind

/-- `trace` is `Σᵢ aᵢᵢ` -/
theorem C03_denote_meaning_trace (env : Env) (a : M9 Rat) :
    evalFn env .trace (.t a) = .ok (.s (sum3 fun i => a.get i i)) := rfl

/-- `Q(Matrix)` is `Matrix:Matrix` -/
theorem C03_denote_meaning_Q (env : Env) (a : M9 Rat) :
    evalFn env .Q (.t a) = evalBin env .contract (.t a) (.t a) := rfl

/-- `diagMat`, `idMat`, `unitMat`, `xyMat` entry by entry -/
theorem C03_denote_meaning_matrices (env : Env) (v : V3 Rat) (d : Rat) (a : M9 Rat) :
    (∃ r, evalFn env .diagMat (.v v) = .ok (.t r) ∧ ∀ i j, r.get i j = if i = j then v.get i else 0) ∧
    (∃ r, evalFn env .idMat (.s d) = .ok (.t r) ∧ ∀ i j, r.get i j = if i = j then d else 0) ∧
    (∃ r, evalFn env .unitMat (.s d) = .ok (.t r) ∧ ∀ i j, r.get i j = d) ∧
    (∃ r, evalFn env .xyMat (.t a) = .ok (.t r) ∧
      ∀ i j, r.get i j = if i = 2 ∨ j = 2 then 0 else a.get i j) :=
  ⟨⟨_, rfl, fin3_forall (fin3_forall rfl rfl rfl) (fin3_forall rfl rfl rfl) (fin3_forall rfl rfl rfl)⟩,
   ⟨_, rfl, fin3_forall (fin3_forall rfl rfl rfl) (fin3_forall rfl rfl rfl) (fin3_forall rfl rfl rfl)⟩,
   ⟨_, rfl, fin3_forall (fin3_forall rfl rfl rfl) (fin3_forall rfl rfl rfl) (fin3_forall rfl rfl rfl)⟩,
   ⟨_, rfl, fin3_forall (fin3_forall rfl rfl rfl) (fin3_forall rfl rfl rfl) (fin3_forall rfl rfl rfl)⟩⟩

/-- `idVec`, `uVecX|Y|Z`, `x|y|zCoord` -/
theorem C03_denote_meaning_vectors (env : Env) (d : Rat) (v : V3 Rat) :
    evalFn env .idVec (.s d) = .ok (.v ⟨d, d, d⟩) ∧
    evalFn env .uVecX (.s d) = .ok (.v ⟨d, 0, 0⟩) ∧ evalFn env .uVecY (.s d) = .ok (.v ⟨0, d, 0⟩) ∧
    evalFn env .uVecZ (.s d) = .ok (.v ⟨0, 0, d⟩) ∧
    evalFn env .xCoord (.v v) = .ok (.s (v.get 0)) ∧ evalFn env .yCoord (.v v) = .ok (.s (v.get 1)) ∧
    evalFn env .zCoord (.v v) = .ok (.s (v.get 2)) :=
  ⟨rfl, rfl, rfl, rfl, rfl, rfl, rfl⟩

/-- `+ - *` component-wise on equal types, `*` and `/` broadcast a scalar; `step`, `stpVal`, `abs`,
unary minus component-wise -/
theorem C03_denote_meaning_componentwise (env : Env) (a b : V3 Rat) (s : Rat) :
    evalBin env .add (.v a) (.v b) = .ok (.v ⟨a.x + b.x, a.y + b.y, a.z + b.z⟩) ∧
    evalBin env .sub (.v a) (.v b) = .ok (.v ⟨a.x - b.x, a.y - b.y, a.z - b.z⟩) ∧
    evalBin env .mul (.v a) (.v b) = .ok (.v ⟨a.x * b.x, a.y * b.y, a.z * b.z⟩) ∧
    evalBin env .mul (.s s) (.v b) = .ok (.v ⟨s * b.x, s * b.y, s * b.z⟩) ∧
    evalBin env .mul (.v a) (.s s) = .ok (.v ⟨s * a.x, s * a.y, s * a.z⟩) ∧
    (s ≠ 0 → evalBin env .div (.v a) (.s s) = .ok (.v ⟨a.x / s, a.y / s, a.z / s⟩)) ∧
    evalFn env .step (.v a) = .ok (.v ⟨if a.x > 0 then 1 else 0, if a.y > 0 then 1 else 0,
      if a.z > 0 then 1 else 0⟩) ∧
    evalFn env .stpVal (.s s) = .ok (.s (if s > 0 then s else 0)) ∧
    evalFn env (.lib "abs" "fabs") (.s s) = .ok (.s (if s < 0 then -s else s)) :=
  ⟨rfl, rfl, rfl, rfl, rfl, fun hs => (div_s_iff env).mpr ⟨hs, rfl⟩, rfl, rfl, rfl⟩

/-- `^` with an integral exponent is the repeated product resp. its reciprocal -/
theorem C03_denote_meaning_pow (env : Env) (a : Rat) (n : Nat) (hn : n ≤ maxExp) :
    evalBin env .pow (.s a) (.s (n : Rat)) = .ok (.s (a ^ n)) ∧
    (a ≠ 0 → evalBin env .pow (.s a) (.s (-(n : Rat))) = .ok (.s (1 / a ^ n))) := by
  have hlt : ¬ maxExp < n := by omega
  constructor
  · simp [evalBin, powRat, hlt, bind, Except.bind, pure, Except.pure]
  · intro ha
    by_cases h0 : n = 0
    · subst h0
      simp [evalBin, powRat, bind, Except.bind, pure, Except.pure]
      grind
    · simp [evalBin, powRat, hlt, h0, ha, bind, Except.bind, pure, Except.pure]

/-! ## Example environment (non-vacuity, witnesses) -/

/-- scalars `a b c` (slots 0 1 2), vectors `[u] [w]`, tensors `{A} {B}`; the double in slot `k` is `k+1`;
the libm oracles decline -/
def exEnv : Env :=
  { decls := [⟨"a", .scalar, 0⟩, ⟨"b", .scalar, 1⟩, ⟨"c", .scalar, 2⟩, ⟨"[u]", .vector, 3⟩,
              ⟨"[w]", .vector, 6⟩, ⟨"{A}", .tensor, 9⟩, ⟨"{B}", .tensor, 18⟩]
    mem := fun k => (k : Rat) + 1
    lib := fun _ _ => .error .opaque
    powf := fun _ _ => .error .opaque
    piv := .error .opaque }

def exSyms : List String := exEnv.decls.map (·.name)

def withTree {α : Type} (syms : List String) (text : String) (f : Tree → Except Err α) : Except Err α :=
  parse syms text >>= f

theorem withTree_ok {α : Type} {syms : List String} {text : String} {t : Tree}
    (h : parse syms text = .ok t) (f : Tree → Except Err α) : withTree syms text f = f t := by
  unfold withTree
  rw [h]
  rfl

/-- non-vacuity of `C03_emit_sound`: accepted, typed, emitted and evaluated expressions
(`a-b-c = 1-2-3`, `a/b*c/b`, `-a^2*b`, `{A}:[u]`, `det(T({A})°{B})`) -/
example : withTree exSyms "a-b-c" (denote exEnv) = .ok (.s (-4)) := by
  simp only [withTree, parse_eq]; decide +kernel
example : withTree exSyms "a/b*c/b" (denote exEnv) = .ok (.s (3/4)) := by
  simp only [withTree, parse_eq]; decide +kernel
example : withTree exSyms "-a^2*b" (denote exEnv) = .ok (.s (-2)) := by
  simp only [withTree, parse_eq]; decide +kernel
example : (withTree exSyms "{A}:[u]" (toC exEnv)).map List.length = .ok 3 := by
  simp only [withTree, parse_eq]; decide +kernel
example : (withTree exSyms "det(T({A})°{B})" (toC exEnv)).map List.length = .ok 1 := by
  simp only [withTree, parse_eq]; decide +kernel
example : withTree exSyms "a-b*c" (fun t => do
    let strs ← toC exEnv t
    strs.mapM (evalC exEnv)) = (withTree exSyms "a-b*c" (denote exEnv)).map Val.toList := by
  have hp : parse exSyms "a-b*c" = .ok (.bin .sub (.sym "a") (.bin .mul (.sym "b") (.sym "c"))) := by
    simp only [parse_eq]; decide +kernel
  have hv : denote exEnv (.bin .sub (.sym "a") (.bin .mul (.sym "b") (.sym "c"))) = .ok (.s (-5)) := by
    decide +kernel
  rw [withTree_ok hp, withTree_ok hp, hv]
  exact toC_evalC (parse_wf hp) hv (by decide +kernel)

/-- non-vacuity of `C03_emit_never_int_error`: the example environment (like the driver's) has clean
oracles -/
example : OraclesClean exEnv :=
  ⟨fun _ _ _ h => by (cases h; rintro (h | h) <;> cases h),
   fun _ _ _ h => by (cases h; rintro (h | h) <;> cases h),
   fun _ h => by (cases h; rintro (h | h) <;> cases h)⟩

/-! ## Witnesses: what the real code does, proved on the model for concrete inputs
(each replayed on the real parser by the harness; `SINCE <commit>` = the behaviour since that commit of
/repo, the behaviour before is in the `C03_old_…` theorems at the end) -/

/-- SINCE ad91e0f (before: `C03_old_int_division_witness`): `step(..)` is emitted as
`(… > 0 ? 1.0 : 0.0)`, a C `double`.  `step(a)/(step(b)+step(c))` with positive `a b c`: interpreter
and compiled code both give `1/2`. -/
theorem C03_step_division_witness :
    withTree exSyms "step(a)/(step(b)+step(c))" (denote exEnv) = .ok (.s (1/2)) ∧
    withTree exSyms "step(a)/(step(b)+step(c))" (fun t => do
      let strs ← toC exEnv t
      strs.mapM (evalC exEnv)) = .ok [1/2] := by
  have hp : parse exSyms "step(a)/(step(b)+step(c))" = .ok (.bin .div (.fn .step (.sym "a"))
      (.bin .add (.fn .step (.sym "b")) (.fn .step (.sym "c")))) := by simp only [parse_eq]; decide +kernel
  have hv : denote exEnv (.bin .div (.fn .step (.sym "a"))
      (.bin .add (.fn .step (.sym "b")) (.fn .step (.sym "c")))) = .ok (.s (1/2)) := by decide +kernel
  rw [withTree_ok hp, withTree_ok hp]
  -- the compiled value is the interpreter's by `C03_emit_sound`; only the emitter has to be run
  exact ⟨hv, toC_evalC (parse_wf hp) hv (by decide +kernel)⟩

/-- SINCE ad91e0f (before: `C03_old_int_div0_witness`): the off-diagonal component of `idMat(1)/idMat(2)`
is `((0.0)/(0.0))`, a `double` division (`nan` at run time, like the interpreter; `div0` in the model on
both sides) — no integer division by zero. -/
theorem C03_zero_division_witness :
    withTree exSyms "idMat(1)/idMat(2)" (fun t => do
      let c ← toCE exEnv t
      evalCX exEnv (c.toList.getD 1 .mpi).abs) = .error .div0 ∧
    withTree exSyms "idMat(1)/idMat(2)" (denote exEnv) = .error .div0 := by
  simp only [withTree, parse_eq]; decide +kernel

/-- SINCE 461b1b3 (before: `C03_old_bracket_witness`): unbalanced brackets are the `gError`
"Unbalanced brackets in expression …", `(a` included. -/
theorem C03_unbalanced_witness :
    parse exSyms "((a" = .error .unbalanced ∧ parse exSyms "(a" = .error .unbalanced ∧
    parse exSyms "((a)" = .error .unbalanced ∧ parse exSyms "(a))" = .error .unknownSymbol := by
  simp only [parse_eq]; decide +kernel

/-- SINCE 461b1b3 (before: `C03_old_bracket_witness`): nested empty brackets are "Empty bracket!" -/
theorem C03_nested_empty_bracket_witness :
    parse exSyms "(())" = .error .emptyBracket ∧ parse exSyms "((()))" = .error .emptyBracket ∧
    parse exSyms "(()a)" = .error .emptyBracket := by simp only [parse_eq]; decide +kernel

/-- SINCE 461b1b3 (before: `C03_old_null_witness`): `FNPower::toC` evaluates the exponent with the
NULL value pointers of production; a vector or tensor variable there throws a `gError` like a scalar
variable, which `FNPower::toC` catches: the text is `(pow(a, b))`. -/
theorem C03_pow_vector_exponent_witness :
    (withTree exSyms "a^([u]:[w])" (toCE exEnv)).map (fun c =>
      match c with
      | .s (.par (.pow _ _)) => true
      | _ => false) = .ok true := by
  simp only [withTree, parse_eq]; decide +kernel

/-- FINDING (silently another meaning): with the declared scalars `a` and `absa`, the text `absa` is read
as `abs(a)`; likewise `sinus` is `sin(us)`, `Temp` is `T(emp)`, … -/
theorem C03_name_clash_witness :
    parse ["a", "absa"] "absa" = .ok (.fn (.lib "abs" "fabs") (.sym "a")) := by
  simp only [parse_eq]; decide +kernel

/-- A declared scalar `Temp` cannot be used at all: the text is read as `T(emp)` (see
`C03_name_clash_witness`). -/
theorem C03_name_clash_reject_witness : parse ["Temp"] "Temp" = .error .unknownSymbol := by
  simp only [parse_eq]; decide +kernel

/-- OBSERVATION: interpreter and emitter disagree on what they accept: `a:b` on two scalars is
evaluated by `value()` (as the product) and rejected by `toC()`. -/
theorem C03_scalar_contraction_witness :
    withTree exSyms "a:b" (denote exEnv) = .ok (.s 2) ∧
    withTree exSyms "a:b" (toC exEnv) = .error .type := by simp only [withTree, parse_eq]; decide +kernel

/-- OBSERVATION: `^` associates to the LEFT (`2^3^2 = 64`). -/
theorem C03_power_left_assoc_witness :
    parse exSyms "2^3^2" = .ok (.bin .pow (.bin .pow (.num "2") (.num "3")) (.num "2")) ∧
    withTree exSyms "2^3^2" (denote exEnv) = .ok (.s 64) := by simp only [withTree, parse_eq]; decide +kernel

/-- rejected, not misread: exponent notation with a sign, a sign after an operator -/
theorem C03_reject_witness :
    parse exSyms "1e-5" = .error .unknownSymbol ∧ parse exSyms "2e+06" = .error .unknownSymbol ∧
    parse exSyms "a*-b" = .error .emptyOperand ∧ parse exSyms "a^-2" = .error .emptyOperand ∧
    parse exSyms "()" = .error .emptyBracket := by simp only [parse_eq]; decide +kernel

/-! ## Non-vacuity of the grammar theorems -/

def atm (s : String) : SE := .atom s.toList

/-- `a-b-c`, `a/b*c/b`, `-a^2*b`, `{A}:[u]`, `det(T({A})°{B})`, `((a))+(b*(c))` belong to the usual grammar -/
example : (SE.bin .sub (.bin .sub (atm "a") (atm "b")) (atm "c")).okU = true ∧
    String.ofList (SE.bin .sub (.bin .sub (atm "a") (atm "b")) (atm "c")).render = "a-b-c" := by
  simp only [SE.okU, atm, SE.atomOK_eq, SE.fnOK_eq]; decide +kernel
example : (SE.bin .div (.bin .mul (.bin .div (atm "a") (atm "b")) (atm "c")) (atm "b")).okU = true ∧
    String.ofList (SE.bin .div (.bin .mul (.bin .div (atm "a") (atm "b")) (atm "c")) (atm "b")).render =
      "a/b*c/b" := by simp only [SE.okU, atm, SE.atomOK_eq, SE.fnOK_eq]; decide +kernel
example : (SE.neg (.bin .mul (.bin .pow (atm "a") (atm "2")) (atm "b"))).okU = true ∧
    String.ofList (SE.neg (.bin .mul (.bin .pow (atm "a") (atm "2")) (atm "b"))).render = "-a^2*b" := by
  simp only [SE.okU, atm, SE.atomOK_eq, SE.fnOK_eq]; decide +kernel
example : (SE.bin .contract (atm "{A}") (atm "[u]")).okU = true := by
  simp only [SE.okU, atm, SE.atomOK_eq, SE.fnOK_eq]; decide +kernel
example : (SE.fn .det (.bin .dot (.fn .T (atm "{A}")) (atm "{B}"))).okU = true ∧
    String.ofList (SE.fn .det (.bin .dot (.fn .T (atm "{A}")) (atm "{B}"))).render = "det(T({A})°{B})" := by
  simp only [SE.okU, atm, SE.atomOK_eq, SE.fnOK_eq]; decide +kernel
example : (SE.bin .add (.paren (.paren (atm "a"))) (.paren (.bin .mul (atm "b") (.paren (atm "c"))))).okU = true := by
  simp only [SE.okU, atm, SE.atomOK_eq, SE.fnOK_eq]; decide +kernel
/-- names that clash with an operator or a function are no atoms of the grammar -/
example : SE.atomOK "Temp".toList = false ∧ SE.atomOK "absa".toList = false ∧
    SE.atomOK "1e-5".toList = false ∧ SE.atomOK "aT".toList = true ∧ SE.atomOK "[rij]".toList = true := by
  simp only [SE.atomOK_eq]; decide +kernel

/-- OBSERVATION (rejected, not misread): `[u]*a/[w]` is well typed in the usual reading
`([u]*a)/[w]`; the parser groups `[u]*(a/[w])`, whose `scalar/vector` is a type error. -/
theorem C03_usual_reading_rejected_witness :
    withTree exSyms "[u]*a/[w]" (denote exEnv) = .error .type ∧
    denote exEnv (.bin .div (.bin .mul (.sym "[u]") (.sym "a")) (.sym "[w]")) =
      .ok (.v ⟨4/7, 5/8, 2/3⟩) := by simp only [withTree, parse_eq]; decide +kernel

/-! ## PRE-FIX HISTORY: what the code did before ad91e0f / 461b1b3

Statements about the explicitly named `…Old` definitions of `Sympler/ExprHistory.lean`, NOT about the
current model.  They record the former findings (each had been replayed on the real code by the
harness). -/

open Old in
/-- HISTORY (before ad91e0f): `step(a)/(step(b)+step(c))` was emitted as
`((…) > 0 ? 1 : 0)/(((…) > 0 ? 1 : 0)+((…) > 0 ? 1 : 0))`: all operands C `int`s, the division an integer
division that truncates `1/2` to `0`. -/
theorem C03_old_int_division_witness :
    evalCX exEnv (CE.par (.bin '/' false (stepCOld (loadC 0 0))
      (.par (.bin '+' false (stepCOld (loadC 1 0)) (stepCOld (loadC 2 0)))))).abs = .error .intTrunc ∧
    (CE.par (.bin '/' false (stepCOld (loadC 0 0))
      (.par (.bin '+' false (stepCOld (loadC 1 0)) (stepCOld (loadC 2 0)))))).abs.noIntDiv = false := by
  decide +kernel

open Old in
/-- HISTORY (before ad91e0f): the off-diagonal components of `idMat(1)/idMat(2)` were `((0)/(0))`, an
integer division by zero (SIGFPE / `ud2`); likewise `x^0` was `(1)`. -/
theorem C03_old_int_div0_witness :
    evalCX exEnv (CE.par (.bin '/' false zeroCOld zeroCOld)).abs = .error .intDiv0 ∧
    oneCOld.abs.isInt = true := by
  decide +kernel

open Old in
/-- HISTORY (before 461b1b3): the bracket loop never terminated on `((a`, threw `std::out_of_range` on
`(())`, and left `(a` to `valueFromString`. -/
theorem C03_old_bracket_witness :
    stripBracketsOld "((a".toList = .hang ∧ stripBracketsOld "(())".toList = .crash ∧
    stripBracketsOld "(a".toList = .ok "(a".toList := by
  decide +kernel

open Old in
/-- HISTORY (before 461b1b3): `value()` of a vector / tensor variable with a NULL pointer was a
segmentation fault (reached from `FNPower::toC` through `a^([u]:[w])`). -/
theorem C03_old_null_witness :
    lookupNullOld .scalar = .gError ∧ lookupNullOld .vector = .segfault ∧
    lookupNullOld .tensor = .segfault := by
  decide

end Sympler.Expr
