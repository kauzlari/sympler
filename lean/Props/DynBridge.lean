import Sympler.Dyn
import Sympler.Gen.DynGen
/-!
# Bridge between the kernels regenerated from the C++ (`Sympler/Gen/DynGen.lean`, translator `translate/t_dyn.py`) and the
hand-written one-step model `Sympler/Dyn.lean` that the theorems of C04, C05, C07 and C10 are about.

Every statement below says: *the function the translator extracted from the current source is the function the model uses*,
for all arguments.  A changed sign, operand, guard, comparison, factor, buffer index or call order in the C++ makes one of
them false (or makes the translator fail), i.e. breaks a proof obligation of C04/C05/C07/C10.
`wFirst = wSecond = 1`: the scenarios use `InputWF … weight="1"`; kernels with a position dependent weight are outside the model.
Core Lean only; no lemma file is imported, so the bridge is checked whether or not the proofs about the model are (hence its own
projection lemmas).
-/
namespace Sympler.Dyn
open Sympler.Gen.Dyn

/-- component-wise application of a generated pair kernel -/
def liftK (k : Rat → Rat → Rat → Rat → Rat → Rat → Rat) (e fi fj : Vec3) (sym : Rat) : Vec3 :=
  ⟨k e.x fi.x fj.x sym 1 1, k e.y fi.y fj.y sym 1 1, k e.z fi.z fj.z sym 1 1⟩

@[simp] theorem add_x (a b : Vec3) : (a + b).x = a.x + b.x := rfl
@[simp] theorem add_y (a b : Vec3) : (a + b).y = a.y + b.y := rfl
@[simp] theorem add_z (a b : Vec3) : (a + b).z = a.z + b.z := rfl
@[simp] theorem smul_x (c : Rat) (a : Vec3) : (c • a).x = c * a.x := rfl
@[simp] theorem smul_y (c : Rat) (a : Vec3) : (c • a).y = c * a.y := rfl
@[simp] theorem smul_z (c : Rat) (a : Vec3) : (c • a).z = c * a.z := rfl

theorem vec3_ext {a b : Vec3} (hx : a.x = b.x) (hy : a.y = b.y) (hz : a.z = b.z) : a = b := by
  cases a; cases b; simp_all

/-- **pair kernels, first partner**: the increment every modelled pair module adds to the FIRST partner is the model's
`PairMod.first` (`factor_i ∘ expr`). -/
theorem Bridge_pair_first (m : PairMod) (env : Env) :
    m.first env = liftK FPairVels_first (m.expr.eval env) (m.fi.eval env) (m.fj.eval env) m.sym ∧
    m.first env = liftK FPairScalar_first (m.expr.eval env) (m.fi.eval env) (m.fj.eval env) m.sym ∧
    m.first env = liftK FPairVector_first (m.expr.eval env) (m.fi.eval env) (m.fj.eval env) m.sym ∧
    m.first env = liftK PairParticleScalar_first (m.expr.eval env) (m.fi.eval env) (m.fj.eval env) m.sym ∧
    m.first env = liftK PairParticleVector_first (m.expr.eval env) (m.fi.eval env) (m.fj.eval env) m.sym := by
  -- every kernel is `fi * e` per component
  have h : ∀ K : Rat → Rat → Rat → Rat → Rat → Rat → Rat, (∀ e fi fj s, K e fi fj s 1 1 = fi * e) →
      m.first env = liftK K (m.expr.eval env) (m.fi.eval env) (m.fj.eval env) m.sym :=
    fun K hK => vec3_ext (hK ..).symm (hK ..).symm (hK ..).symm
  exact ⟨h _ (fun _ _ _ _ => rfl), h _ (fun _ _ _ _ => by rw [FPairScalar_first, Rat.mul_one]),
    h _ (fun _ _ _ _ => by rw [FPairVector_first, Rat.mul_one]), h _ (fun _ _ _ _ => Rat.mul_comm ..),
    h _ (fun _ _ _ _ => rfl)⟩

/-- **pair kernels, second partner**: `symmetry * (factor_j ∘ expr)`. -/
theorem Bridge_pair_second (m : PairMod) (env : Env) :
    m.second env = liftK FPairVels_second (m.expr.eval env) (m.fi.eval env) (m.fj.eval env) m.sym ∧
    m.second env = liftK FPairScalar_second (m.expr.eval env) (m.fi.eval env) (m.fj.eval env) m.sym ∧
    m.second env = liftK FPairVector_second (m.expr.eval env) (m.fi.eval env) (m.fj.eval env) m.sym ∧
    m.second env = liftK PairParticleScalar_second (m.expr.eval env) (m.fi.eval env) (m.fj.eval env) m.sym ∧
    m.second env = liftK PairParticleVector_second (m.expr.eval env) (m.fi.eval env) (m.fj.eval env) m.sym := by
  -- every kernel is `sym * (fj * e)` per component
  have h : ∀ K : Rat → Rat → Rat → Rat → Rat → Rat → Rat, (∀ e fi fj s, K e fi fj s 1 1 = s * (fj * e)) →
      m.second env = liftK K (m.expr.eval env) (m.fi.eval env) (m.fj.eval env) m.sym :=
    fun K hK => vec3_ext (hK ..).symm (hK ..).symm (hK ..).symm
  exact ⟨h _ (fun _ _ _ _ => rfl), h _ (fun _ _ _ _ => by rw [FPairScalar_second, Rat.mul_one]),
    h _ (fun _ _ _ _ => by rw [FPairVector_second, Rat.mul_one]),
    h _ (fun e _ fj s => by rw [PairParticleScalar_second, Rat.mul_assoc, Rat.mul_comm e]),
    h _ (fun _ _ _ _ => rfl)⟩

/-- **guards**: in every modelled pair module the write to the first partner is under `actsOnFirst()` only, the write to the
second under `actsOnSecond()` only, and both are accumulations (`+=`) — the shape of `pairOp`
(`if !p.frozen … addTag`, `if !q.frozen … addTag`; the acts-on flags are the free flags by C01). -/
theorem Bridge_pair_guards :
    [FPairVels_firstGuards, FPairScalar_firstGuards, FPairVector_firstGuards, PairParticleScalar_firstGuards,
      PairParticleVector_firstGuards].all (· == [Guard.actsOnFirst]) = true ∧
    [FPairVels_secondGuards, FPairScalar_secondGuards, FPairVector_secondGuards, PairParticleScalar_secondGuards,
      PairParticleVector_secondGuards].all (· == [Guard.actsOnSecond]) = true ∧
    [FPairVels_firstAccumulates, FPairScalar_firstAccumulates, FPairVector_firstAccumulates,
      PairParticleScalar_firstAccumulates, PairParticleVector_firstAccumulates, FPairVels_secondAccumulates,
      FPairScalar_secondAccumulates, FPairVector_secondAccumulates, PairParticleScalar_secondAccumulates,
      PairParticleVector_secondAccumulates].all id = true := by decide

theorem sq_lt_sq_iff {a c : Rat} (ha : 0 ≤ a) (hc : 0 < c) : a < c ↔ a * a < c * c := by
  constructor
  · intro h
    have h1 : a * a ≤ a * c := Rat.mul_le_mul_of_nonneg_left (Rat.le_of_lt h) ha
    have h2 : a * c < c * c := (Rat.mul_lt_mul_right hc).mpr h
    grind
  · intro h
    apply Rat.not_le.mp
    intro hca
    have h1 : c * c ≤ a * c := Rat.mul_le_mul_of_nonneg_right hca (Rat.le_of_lt hc)
    have h2 : a * c ≤ a * a := Rat.mul_le_mul_of_nonneg_left hca ha
    grind

/-- **own cutoff**: every modelled pair module runs iff `abs < m_cutoff` (strict), which for `abs ≥ 0`, `cutoff > 0` is the
model's `inCut` (`abs² < cutoff²`). -/
theorem Bridge_pair_cutoff {abs cutoff : Rat} (ha : 0 ≤ abs) (hc : 0 < cutoff) :
    (FPairVels_inCut abs cutoff = true ↔ abs * abs < cutoff * cutoff) ∧
    (FPairScalar_inCut abs cutoff = true ↔ abs * abs < cutoff * cutoff) ∧
    (FPairVector_inCut abs cutoff = true ↔ abs * abs < cutoff * cutoff) ∧
    (PairParticleScalar_inCut abs cutoff = true ↔ abs * abs < cutoff * cutoff) ∧
    (PairParticleVector_inCut abs cutoff = true ↔ abs * abs < cutoff * cutoff) := by
  simp only [FPairVels_inCut, FPairScalar_inCut, FPairVector_inCut, PairParticleScalar_inCut, PairParticleVector_inCut,
    decide_eq_true_eq]
  exact ⟨sq_lt_sq_iff ha hc, sq_lt_sq_iff ha hc, sq_lt_sq_iff ha hc, sq_lt_sq_iff ha hc, sq_lt_sq_iff ha hc⟩

/-- **velocity-Verlet, step 1**: position and velocity update of the model = the generated `integratePosition` /
`integrateVelocity` increments (followed by the periodic wrap of `checkNewPosition`). -/
theorem Bridge_vv_step1 (b : Box) (dt lambda mass : Rat) (idx : Bool) (p : Particle) :
    let f := p.tag (.force .vel idx)
    vvStep1 b dt lambda mass idx p =
      { p with
        r := wrap b ⟨p.r.x + vvPosIncr dt p.v.x f.x mass, p.r.y + vvPosIncr dt p.v.y f.y mass, p.r.z + vvPosIncr dt p.v.z f.z mass⟩,
        v := ⟨p.v.x + vvVelIncr dt lambda f.x mass, p.v.y + vvVelIncr dt lambda f.y mass, p.v.z + vvVelIncr dt lambda f.z mass⟩ } := by
  intro f
  have hpos : ∀ v f, dt * (v + 1 / 2 * dt * (1 / mass * f)) = vvPosIncr dt v f mass :=
    fun v f => by simp only [vvPosIncr, Rat.div_def]; grind
  have hvel : ∀ f, lambda * (dt * (1 / mass * f)) = vvVelIncr dt lambda f mass :=
    fun f => by simp only [vvVelIncr, Rat.div_def]; grind
  have hr : p.r + dt • (p.v + ((1 / 2 : Rat) * dt) • ((1 / mass) • f)) =
      ⟨p.r.x + vvPosIncr dt p.v.x f.x mass, p.r.y + vvPosIncr dt p.v.y f.y mass, p.r.z + vvPosIncr dt p.v.z f.z mass⟩ :=
    vec3_ext (congrArg (p.r.x + ·) (hpos ..)) (congrArg (p.r.y + ·) (hpos ..)) (congrArg (p.r.z + ·) (hpos ..))
  have hv : p.v + lambda • (dt • ((1 / mass) • f)) =
      ⟨p.v.x + vvVelIncr dt lambda f.x mass, p.v.y + vvVelIncr dt lambda f.y mass, p.v.z + vvVelIncr dt lambda f.z mass⟩ :=
    vec3_ext (congrArg (p.v.x + ·) (hvel ..)) (congrArg (p.v.y + ·) (hvel ..)) (congrArg (p.v.z + ·) (hvel ..))
  simp only [vvStep1]
  rw [hr, hv]

/-- **velocity-Verlet, step 2**: the `lambda ≠ 1/2` correction with the OTHER buffer, then `dt/2 · force[idx]/m`. -/
theorem Bridge_vv_step2 (dt lambda mass : Rat) (idx : Bool) (p : Particle) :
    let fo := p.tag (.force .vel (!idx))
    let fn := p.tag (.force .vel idx)
    let c := fun (x : Rat) => if lambda ≠ 1 / 2 then vvStep2Corr dt (vvLambdaDiff lambda) x mass else 0
    (vvStep2 dt lambda mass idx p).v =
      ⟨p.v.x + c fo.x + vvStep2Incr dt fn.x mass, p.v.y + c fo.y + vvStep2Incr dt fn.y mass,
       p.v.z + c fo.z + vvStep2Incr dt fn.z mass⟩ := by
  intro fo fn c
  have hcorr : ∀ x, dt * (1 / 2 - lambda) * (1 / mass * x) = vvStep2Corr dt (vvLambdaDiff lambda) x mass :=
    fun x => by simp only [vvStep2Corr, vvLambdaDiff, Rat.div_def]; grind
  have hincr : ∀ x, dt / 2 * (1 / mass * x) = vvStep2Incr dt x mass :=
    fun x => by simp only [vvStep2Incr, Rat.div_def]; grind
  by_cases h : lambda ≠ 1 / 2
  · have hc : ∀ x, c x = vvStep2Corr dt (vvLambdaDiff lambda) x mass := fun x => if_pos h
    have e : (vvStep2 dt lambda mass idx p).v
        = p.v + (dt * (1 / 2 - lambda)) • ((1 / mass) • fo) + (dt / 2) • ((1 / mass) • fn) := by
      unfold vvStep2; rw [if_pos h]
    simp only [e, hc, ← hcorr, ← hincr]; rfl
  · have hc : ∀ x, c x = 0 := fun x => if_neg h
    have e : (vvStep2 dt lambda mass idx p).v = p.v + (dt / 2) • ((1 / mass) • fn) := by
      unfold vvStep2; rw [if_neg h]
    simp only [e, hc, Rat.add_zero, ← hincr]; rfl

/-- **Euler integrators**: `IntegratorScalar/Vector::integrateStep1` add `dt · force[idx]` component-wise.  A scalar quantity
lives in the x component (`Vec3.ofScalar`), so x is stated with the kernel of `IntegratorScalar` and y, z with that of
`IntegratorVector`; one statement covers both generated kernels. -/
theorem Bridge_euler_step1 (dt : Rat) (name : String) (idx : Bool) (p : Particle) :
    let f := p.tag (.force (.user name) idx)
    (eulerStep1 dt name idx p).tag (.sym name) =
      ⟨(p.tag (.sym name)).x + eulerScalarIncr dt f.x, (p.tag (.sym name)).y + eulerVectorIncr dt f.y,
       (p.tag (.sym name)).z + eulerVectorIncr dt f.z⟩ := by
  intro f
  apply vec3_ext <;>
    simp [eulerStep1, Particle.addTag, Particle.setTag, eulerScalarIncr, eulerVectorIncr, f]

/-- **order of one time step** (`Controller::integrate`) and the two-buffer flip: exactly the sequence `step` composes
(`integ1`; `other := !idx` = `(idx+1) & (FORCE_HIST_SIZE-1)` with `FORCE_HIST_SIZE = 2`; `clearForce other`; `unprotect other`;
`clearParticleData`; neighbour update; `runSymbols`; pair forces, particle forces into `other`; `idx := other`; `integ2`).
`"otherForces"` is the loop over `Simulation::otherForces()` (forces that are neither pair nor one-particle forces,
`GenF::computeForces(int)`); a `Config` has none, so `step` has no phase for it. -/
theorem Bridge_step_order :
    integrateOrder = ["step1", "otherIndex", "clearForce", "unprotect", "clearParticleData", "neighbourUpdate", "runSymbols",
      "pairForces", "particleForces", "otherForces", "flipIndex", "step2"] ∧ forceHistSize = 2 := ⟨rfl, rfl⟩

end Sympler.Dyn
