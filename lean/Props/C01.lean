import Sympler.GeomLemmas
/-!
# C01 — the cell-list neighbour search finds exactly the pairs within the cutoff

Mathematical core, stated over the abstract configuration of `Sympler.Geom`
(`/repo/source/src/basic/manager_cell.cpp` `cellSubdivide`/`findCell`,
`/repo/source/src/basic/cell.cpp` `cellDist`, `CellLink::createDistances`,
`/repo/source/include/basic/cell.h` `addPair`).

* Grid: per direction `(w, n, periodic)` with `0 < w`, `2 ≤ n` (`Grid.OK`; includes exactly two
  cells), all 8 periodicity patterns, box `[0, n·w)`.
* Cutoff of the colour pair `(a,b)`: `0 < rc(a,b) ≤ w_d` for all `d` (`CutOK`; any table `cut`).
* Links: *any* list satisfying `LinkSetOK` (every listed link real, every `(cell, offset)` with an
  existing neighbour listed in one of its two orientations, none twice).  `C01_links_nonvacuous`
  shows the canonical list `Grid.allLinks` satisfies it for every grid; for the list the loops of
  `cellSubdivide` build it is `C01_links_complete_unique` (`Props/C01General.lean`).
* Particles: distinct ids, registered in a cell (`Registered cfg ε`: at most `ε` outside it;
  `ε = 0` for the exact statement; supplied by C09).  Only *active* links (both cells occupied)
  are visited.
* `cellPairs` mirrors `createDistances`/`addPair` call by call; `brute` is the `O(N²)` reference
  with the minimum-image convention in the periodic directions.
* Orientation: for two particles of the same colour the C++ order (and hence the sign of the
  vector) depends on list positions, so lists are compared through `Pair.canon` (smaller id
  first; swapping partners negates the vector and swaps the flags) and "same unordered pair" is
  `Pair.same`.
-/
open Sympler.Geom

/-! ## 1. One axis -/

/-- Completeness on a non-periodic axis (it also holds on a periodic one, where it covers the pairs
that are close without wrapping). -/
theorem C01_axis_nonperiodic {a : Axis} (hw : 0 < a.w) {rc : Rat}
    (hrc : rc ≤ a.w) {i j : Int} {x y : Rat} (hi : a.Contains 0 i x) (hj : a.Contains 0 j y)
    (h1 : -rc < x - y) (h2 : x - y < rc) :
    IsOff1 (j - i) ∧ a.nb i (j - i) = some j ∧ a.linkDelta (j - i) i j x y = x - y := by
  have hb := abs_lt_mono ⟨h1, h2⟩ hrc
  have h := axis_complete_off hw hi hj 0 (fun _ => rfl)
    (by rw [sub_two_mul_zero, sub_zero_mul]; exact hb.1)
    (by rw [sub_two_mul_zero, sub_zero_mul]; exact hb.2)
  rwa [Int.zero_mul, Int.add_zero, sub_zero_mul] at h

example : (⟨1, 3, false⟩ : Axis).Contains 0 0 (9/10) ∧ (⟨1, 3, false⟩ : Axis).Contains 0 1 (11/10) := by
  decide +kernel

/-- Completeness on a periodic axis: some link delivers exactly the minimum image. -/
theorem C01_axis_periodic {a : Axis} (hw : 0 < a.w) (hper : a.per = true) {rc : Rat}
    (hrc : rc ≤ a.w) {i j : Int} {x y : Rat} (hi : a.Contains 0 i x) (hj : a.Contains 0 j y)
    (h1 : -rc < mi a.L (x - y)) (h2 : mi a.L (x - y) < rc) :
    ∃ o, IsOff1 o ∧ a.nb i o = some j ∧ a.linkDelta o i j x y = mi a.L (x - y) := by
  have e : a.sep x y = mi a.L (x - y) := by rw [Axis.sep, if_pos hper]
  rw [← e] at h1 h2 ⊢
  exact axis_complete_sep hw hi hj (by rw [sub_two_mul_zero]; exact hrc) ⟨h1, h2⟩

example : (⟨1, 2, true⟩ : Axis).Contains 0 0 (1/10) ∧ (⟨1, 2, true⟩ : Axis).Contains 0 1 (19/10) ∧
    mi (⟨1, 2, true⟩ : Axis).L (1/10 - 19/10) = 1/5 := by
  decide +kernel

/-- Uniqueness of the offset among those that pass the cutoff — for every `n ≥ 2`, periodic or not. -/
theorem C01_axis_unique {a : Axis} (hw : 0 < a.w) (hn : 2 ≤ a.n) {rc : Rat} (hrc : rc ≤ a.w)
    {i j o1 o2 : Int} (ho1 : IsOff1 o1) (ho2 : IsOff1 o2)
    (h1 : a.nb i o1 = some j) (h2 : a.nb i o2 = some j) {x y : Rat}
    (b1 : -rc < a.linkDelta o1 i j x y ∧ a.linkDelta o1 i j x y < rc)
    (b2 : -rc < a.linkDelta o2 i j x y ∧ a.linkDelta o2 i j x y < rc) : o1 = o2 :=
  axis_unique ⟨hw, hn⟩ hrc ho1 ho2 h1 h2 b1 b2

/-- For `n ≥ 3` the offset is already determined by the two cells. -/
theorem C01_axis_unique_n3 {a : Axis} (hn : 3 ≤ a.n) {i j o1 o2 : Int} (ho1 : IsOff1 o1)
    (ho2 : IsOff1 o2) (h1 : a.nb i o1 = some j) (h2 : a.nb i o2 = some j) : o1 = o2 := by
  have ⟨_, _⟩ := isOff1_iff.1 ho1
  have ⟨_, _⟩ := isOff1_iff.1 ho2
  have := Int.eq_zero_of_dvd_of_natAbs_lt_natAbs (nb_eq_dvd (by omega) h1 h2) (by omega)
  omega

/-- Exactly two cells in a periodic direction: `o = 1` and `o = -1` reach the same cell. -/
theorem C01_axis_two_cells_same_neighbour {a : Axis} (hn : a.n = 2) (hper : a.per = true) (i : Int) :
    a.nb i 1 = a.nb i (-1) := by
  unfold Axis.nb
  rw [if_pos hper, if_pos hper, hn, show i + 1 + (2 : Nat) = i + -1 + (2 : Nat) + (2 : Nat) * 1 by omega,
    Int.add_mul_emod_self_left]

/-- The links with `o = 1` and `o = -1` between the same two cells deliver components that differ by
`2w` (`= L` when there are exactly two cells), so at most one of them is shorter than `rc ≤ w`. -/
theorem C01_axis_two_cells {a : Axis} {rc : Rat} (hrc : rc ≤ a.w) (i j : Int)
    (x y : Rat) :
    ¬((-rc < a.linkDelta 1 i j x y ∧ a.linkDelta 1 i j x y < rc) ∧
      (-rc < a.linkDelta (-1) i j x y ∧ a.linkDelta (-1) i j x y < rc)) := by
  rw [linkDelta_eq (Or.inr (Or.inr rfl)), linkDelta_eq (Or.inl rfl)]
  simp only [Rat.intCast_sub, Rat.intCast_neg]
  have c : ((1 : Int) : Rat) = 1 := rfl
  rw [c]
  grind

/-- Soundness, one axis: the delivered component is an image of `x - y`; if it passes the cutoff it
*is* the reference component (minimum image / plain difference).  No containment hypothesis. -/
theorem C01_axis_sound {a : Axis} (ha : a.OK) {rc : Rat} (hrc : rc ≤ a.w) {i o j : Int}
    (hi : a.InRange i) (ho : IsOff1 o) (hnb : a.nb i o = some j) (x y : Rat) :
    (∃ k : Int, IsOff1 k ∧ (a.per = false → k = 0) ∧
      a.linkDelta o i j x y = x - y - (k : Rat) * a.L) ∧
    (-rc < a.linkDelta o i j x y → a.linkDelta o i j x y < rc →
      a.linkDelta o i j x y = a.sep x y) :=
  ⟨axis_sound hi ho hnb x y, fun h1 h2 => axis_sound_sep ha hrc ho hnb ⟨h1, h2⟩⟩

/-- The minimum image.  The tie `|·| = L/2` is resolved to `-L/2`; a kept pair has
`|δ| < rc ≤ w ≤ L/2` and is never at the tie. -/
theorem C01_mi_spec {L : Rat} (hL : 0 < L) (t : Rat) :
    (-(L / 2) ≤ mi L t ∧ mi L t < L / 2) ∧ (∃ k : Int, mi L t = t - (k : Rat) * L) ∧
    (∀ k : Int, -(L / 2) ≤ t - (k : Rat) * L → t - (k : Rat) * L < L / 2 →
      t - (k : Rat) * L = mi L t) ∧
    (∀ k : Int, mi L t * mi L t ≤ (t - (k : Rat) * L) * (t - (k : Rat) * L)) :=
  ⟨mi_mem hL t, ⟨_, mi_eq L t⟩, fun _ h1 h2 => mi_unique hL h1 h2, mi_minimal hL t⟩

/-- `rc ≤ w ≤ L/2` for every admissible axis. -/
theorem C01_width_le_half_box {a : Axis} (ha : a.OK) : 0 < a.L ∧ a.w ≤ a.L / 2 := ha.L_facts

theorem C01_component_lt {d : V3 Rat} {rc : Rat} (h0 : 0 < rc) (h : normSq d < rc * rc) :
    (-rc < d.x ∧ d.x < rc) ∧ (-rc < d.y ∧ d.y < rc) ∧ (-rc < d.z ∧ d.z < rc) :=
  comp_lt_of_normSq h0 h

/-! ## 2. Three axes -/

/-- Non-vacuity of the link-set hypothesis. -/
theorem C01_links_nonvacuous {g : Grid} (hg : g.OK) : LinkSetOK g g.allLinks := allLinks_ok hg

/-- Soundness — needs no containment hypothesis: every listed entry is the reference entry (ids,
minimum-image vector, flags `(free?, free?)`) of a pair of the reference list; its vector is an
image with `k_d ∈ {-1,0,1}`, `k_d = 0` in non-periodic directions, and it is the shortest image. -/
theorem C01_sound {cfg : Config} (hg : cfg.grid.OK) (hid : IdsNodup cfg) {a b : Nat}
    (hc : CutOK cfg.grid (cfg.cut a b)) {links : List Link}
    (hl : ∀ l, l ∈ links → l.Valid cfg.grid) {e : Pair} (he : e ∈ cellPairs cfg links a b) :
    ∃ p q, InBrute cfg (cfg.cut a b) a b p q ∧ e = mkPair cfg.grid p q ∧
      IsImage cfg.grid p.r q.r e.d ∧
      ∀ k : V3 Int, (cfg.grid.x.per = false → k.x = 0) → (cfg.grid.y.per = false → k.y = 0) →
        (cfg.grid.z.per = false → k.z = 0) →
        normSq e.d ≤ normSq ⟨p.r.x - q.r.x - (k.x : Rat) * cfg.grid.x.L,
          p.r.y - q.r.y - (k.y : Rat) * cfg.grid.y.L, p.r.z - q.r.z - (k.z : Rat) * cfg.grid.z.L⟩ := by
  obtain ⟨p, q, hb, rfl, him⟩ := cellPairs_sound hg hid hc hl he
  exact ⟨p, q, hb, rfl, him, fun k hx hy hz => sepV_minimal hg p.r q.r k hx hy hz⟩

/-- None listed twice — across links (including the two distinct links between the same two cells
when a periodic direction has exactly two cells) and within a link.  No containment hypothesis. -/
theorem C01_nodup {cfg : Config} (hg : cfg.grid.OK) (hid : IdsNodup cfg) {a b : Nat}
    (hc : CutOK cfg.grid (cfg.cut a b)) {links : List Link} (hl : LinkSetOK cfg.grid links) :
    (cellPairs cfg links a b).Pairwise (fun e e' => ¬ e.same e') :=
  cellPairs_pairwise hg hid hc hl

/-- None missing: every pair of the reference list is listed (in one orientation). -/
theorem C01_complete {cfg : Config} (hg : cfg.grid.OK) (hreg : Registered cfg 0) {a b : Nat}
    (hc : CutOK cfg.grid (cfg.cut a b)) {links : List Link} (hl : LinkSetOK cfg.grid links)
    {p q : Particle} (h : InBrute cfg (cfg.cut a b) a b p q) :
    ∃ e, e ∈ cellPairs cfg links a b ∧ e.same (mkPair cfg.grid p q) :=
  cellPairs_complete_zero hg hreg hc hl h

/-- The exact form of C01: the list of the cell search is a permutation of the brute-force reference
list (entries compared in canonical orientation) — none missing, none twice — and every entry has
the reference vector (minimum image of `r_first - r_second`) and flags `(free?, free?)`. -/
theorem C01_exact {cfg : Config} (hg : cfg.grid.OK) (hid : IdsNodup cfg) (hreg : Registered cfg 0)
    {a b : Nat} (hc : CutOK cfg.grid (cfg.cut a b)) {links : List Link}
    (hl : LinkSetOK cfg.grid links) :
    ((cellPairs cfg links a b).map Pair.canon).Perm ((brute cfg a b).map Pair.canon) ∧
    (cellPairs cfg links a b).Pairwise (fun e e' => ¬ e.same e') ∧
    ∀ e, e ∈ cellPairs cfg links a b →
      ∃ p q, InBrute cfg (cfg.cut a b) a b p q ∧ e = mkPair cfg.grid p q ∧
        IsImage cfg.grid p.r q.r e.d :=
  ⟨cellPairs_perm_brute hg hid hreg hc hl, cellPairs_pairwise hg hid hc hl,
   fun _ he => cellPairs_sound hg hid hc hl.valid he⟩

/-- The reference list itself lists `InBrute`, each unordered pair once. -/
theorem C01_brute_spec {cfg : Config} (hg : cfg.grid.OK) (hid : IdsNodup cfg) (a b : Nat) :
    (∀ e, e ∈ brute cfg a b →
      ∃ p q, InBrute cfg (cfg.cut a b) a b p q ∧ e = mkPair cfg.grid p q) ∧
    (∀ p q, InBrute cfg (cfg.cut a b) a b p q →
      mkPair cfg.grid p q ∈ brute cfg a b ∨ (a = b ∧ mkPair cfg.grid q p ∈ brute cfg a b)) ∧
    (brute cfg a b).Pairwise (fun e e' => ¬ e.same e') :=
  ⟨fun _ he => bruteRc_sound hid he, fun _ _ h => bruteRc_complete hg h,
   bruteRc_pairwise hid _ a b⟩

/-- C01 with slack.  Particles may sit up to `ε` outside the cell they are registered in
(`isInsideEps`, `0 ≤ 2ε < rc`).  Then (1) every pair with minimum-image separation `< rc - 2ε`
is listed, (2) every listed pair has minimum-image separation `< rc` — no pair at distance `≥ rc`
is ever listed — with the exact minimum-image vector and the right flags, (3) none is listed
twice.  Pairs with separation in `[rc - 2ε, rc)` may or may not be listed: that sliver is not
decided by this theorem. -/
theorem C01_eps {cfg : Config} (hg : cfg.grid.OK) (hid : IdsNodup cfg) {ε : Rat} (hε : 0 ≤ ε)
    (hreg : Registered cfg ε) {a b : Nat} (hc : CutOK cfg.grid (cfg.cut a b))
    (hpos : 0 < cfg.cut a b - 2 * ε) {links : List Link} (hl : LinkSetOK cfg.grid links) :
    (∀ p q, InBrute cfg (cfg.cut a b - 2 * ε) a b p q →
      ∃ e, e ∈ cellPairs cfg links a b ∧ e.same (mkPair cfg.grid p q)) ∧
    (∀ e, e ∈ cellPairs cfg links a b →
      ∃ p q, InBrute cfg (cfg.cut a b) a b p q ∧ e = mkPair cfg.grid p q ∧
        IsImage cfg.grid p.r q.r e.d) ∧
    (cellPairs cfg links a b).Pairwise (fun e e' => ¬ e.same e') :=
  ⟨fun _ _ h => cellPairs_complete hg hε hreg hc hl hpos h,
   fun _ he => cellPairs_sound hg hid hc hl.valid he, cellPairs_pairwise hg hid hc hl⟩

/-- `Registered cfg 0` is what `findCell` produces for particles in the box. -/
theorem C01_registered_of_findCell {cfg : Config} (hg : cfg.grid.OK)
    (h : ∀ p, p ∈ cfg.parts → p.cell = cfg.grid.cellOf p.r ∧
      (0 ≤ p.r.x ∧ p.r.x < cfg.grid.x.L) ∧ (0 ≤ p.r.y ∧ p.r.y < cfg.grid.y.L) ∧
      (0 ≤ p.r.z ∧ p.r.z < cfg.grid.z.L)) : Registered cfg 0 :=
  registered_of_cellOf hg h

/-- Conversely `Registered cfg 0` leaves no other cell than `findCell`'s. -/
theorem C01_registered_cell {cfg : Config} (hg : cfg.grid.OK) (h : Registered cfg 0)
    {p : Particle} (hp : p ∈ cfg.parts) : p.cell = cfg.grid.cellOf p.r := by
  obtain ⟨hx, hy, hz⟩ := h p hp
  cases hc : p.cell with | mk i j k =>
  rw [hc] at hx hy hz
  simp only [Grid.cellOf, Contains.cellIdx_eq hg.1.1 hx, Contains.cellIdx_eq hg.2.1.1 hy,
    Contains.cellIdx_eq hg.2.2.1 hz]

/-! ## 3. Non-vacuity: a 2×3×2 grid, periodic in x (exactly two cells) and z, walls in y -/

namespace C01Example

def grid : Grid := ⟨⟨1, 2, true⟩, ⟨1, 3, false⟩, ⟨3/2, 2, true⟩⟩

def cut : Nat → Nat → Rat
  | 0, 0 => 1
  | 1, 1 => 1/2
  | _, _ => 4/5

/-- `p0`–`p1`: colour 0, across the periodic x face of the two-cell direction (`0.1` vs `1.9`);
`p2`: colour 1, frozen, next cell in y; `p3`: colour 1, `2.4` away from `p0` in the non-periodic
y direction (would be `0.6` if y were periodic); `p4`: colour 1, frozen, close to `p2`
(frozen–frozen, never listed). -/
def cfg : Config :=
  { grid := grid
    parts := [⟨0, 0, false, ⟨1/10, 1/2, 1/2⟩, ⟨0, 0, 0⟩⟩,
              ⟨1, 0, false, ⟨19/10, 1/2, 1/2⟩, ⟨1, 0, 0⟩⟩,
              ⟨2, 1, true, ⟨1/10, 6/5, 1/2⟩, ⟨0, 1, 0⟩⟩,
              ⟨3, 1, false, ⟨3/10, 29/10, 1/2⟩, ⟨0, 2, 0⟩⟩,
              ⟨4, 1, true, ⟨1/10, 13/10, 1/2⟩, ⟨0, 1, 0⟩⟩]
    cut := cut }

example : cfg.grid.OK ∧ IdsNodup cfg ∧ Registered cfg 0 ∧
    CutOK cfg.grid (cfg.cut 0 0) ∧ CutOK cfg.grid (cfg.cut 0 1) ∧ CutOK cfg.grid (cfg.cut 1 1) := by
  refine ⟨by decide +kernel, by decide +kernel, ?_, by decide +kernel, by decide +kernel,
    by decide +kernel⟩
  apply registered_of_cellOf (by decide +kernel)
  decide +kernel

/-- The pair across the periodic face is found once — by the link `(cell 1, +1) ≡ (cell 0, -1)`,
which delivers `0.2`; the other link between the same two cells, `(cell 0, +1) ≡ (cell 1, -1)`,
delivers `-1.8` and rejects it — with the minimum-image vector. -/
example : cellPairs cfg cfg.grid.allLinks 0 0 = [⟨0, 1, ⟨1/5, 0, 0⟩, true, true⟩] ∧
    brute cfg 0 0 = [⟨0, 1, ⟨1/5, 0, 0⟩, true, true⟩] ∧
    linkPairs cfg ⟨⟨1,0,0⟩, ⟨0,0,0⟩, ⟨1,0,0⟩⟩ 0 0 = [⟨0, 1, ⟨1/5, 0, 0⟩, true, true⟩] ∧
    linkPairs cfg ⟨⟨0,0,0⟩, ⟨1,0,0⟩, ⟨1,0,0⟩⟩ 0 0 = [] ∧
    (⟨⟨0,0,0⟩, ⟨1,0,0⟩, ⟨1,0,0⟩⟩ : Link).vec cfg.grid ⟨1/10, 1/2, 1/2⟩ ⟨19/10, 1/2, 1/2⟩ =
      ⟨-9/5, 0, 0⟩ := by
  decide +kernel

/-- Mixed colours, one partner frozen: flags `(true, false)`; `p3` is not paired with `p0`/`p1`
through the wall. -/
example : cellPairs cfg cfg.grid.allLinks 0 1 =
      [⟨0, 2, ⟨0, -7/10, 0⟩, true, false⟩, ⟨1, 2, ⟨-1/5, -7/10, 0⟩, true, false⟩] ∧
    brute cfg 0 1 =
      [⟨0, 2, ⟨0, -7/10, 0⟩, true, false⟩, ⟨1, 2, ⟨-1/5, -7/10, 0⟩, true, false⟩] := by
  decide +kernel

/-- Frozen–frozen pairs are not listed. -/
example : cellPairs cfg cfg.grid.allLinks 1 1 = [] ∧ brute cfg 1 1 = [] := by
  decide +kernel

/-- The two links between the same two cells in the two-cell periodic direction are both in the
link list, with different offsets. -/
example : (⟨⟨0,0,0⟩, ⟨1,0,0⟩, ⟨1,0,0⟩⟩ : Link) ∈ cfg.grid.allLinks ∧
    (⟨⟨1,0,0⟩, ⟨0,0,0⟩, ⟨1,0,0⟩⟩ : Link) ∈ cfg.grid.allLinks ∧
    (⟨⟨1,0,0⟩, ⟨0,0,0⟩, ⟨1,0,0⟩⟩ : Link).flip = ⟨⟨0,0,0⟩, ⟨1,0,0⟩, ⟨-1,0,0⟩⟩ := by
  decide +kernel

/-- `C01_exact` applies to this configuration (all hypotheses hold). -/
example : ((cellPairs cfg cfg.grid.allLinks 0 1).map Pair.canon).Perm
    ((brute cfg 0 1).map Pair.canon) :=
  (C01_exact (cfg := cfg) (by decide +kernel) (by decide +kernel)
    (registered_of_cellOf (by decide +kernel) (by decide +kernel)) (a := 0) (b := 1)
    (by decide +kernel) (C01_links_nonvacuous (by decide +kernel))).1

/-- Slack: `p1` moved to `x = 2.005`, i.e. `0.005` beyond the upper face of cell 1 (and of the
box) but still registered there; `ε = 1/100`.  The hypotheses of `C01_eps` hold, those of
`C01_exact` do not, and the pair `p0`–`p1` (image separation `0.095`) is still listed with the
image vector. -/
def cfgEps : Config :=
  { cfg with parts := [⟨0, 0, false, ⟨1/10, 1/2, 1/2⟩, ⟨0, 0, 0⟩⟩,
                       ⟨1, 0, false, ⟨401/200, 1/2, 1/2⟩, ⟨1, 0, 0⟩⟩] }

example : Registered cfgEps (1/100) ∧ ¬ Registered cfgEps 0 ∧ IdsNodup cfgEps ∧
    0 < cfgEps.cut 0 0 - 2 * (1/100) ∧
    cellPairs cfgEps cfgEps.grid.allLinks 0 0 = [⟨0, 1, ⟨19/200, 0, 0⟩, true, true⟩] := by
  decide +kernel

end C01Example
