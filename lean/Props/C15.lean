import Sympler.SmartListLemmas
/-!
# C15 — the particle store stays consistent under any insert/delete sequence

Property theorems about `Sympler.SmartList` (model of `SmartList<T>`,
`/repo/source/include/basic/smart_list.h`).  All statements are for **every** op sequence
`ops : List Op` run from the constructor (`run p ops = (state, spec)`, `spec` the abstract list of
live slots in insertion order) and for every `Params` with `chunkLen = 2 ^ chunkSh`.
-/
open Sympler.SmartList

/-- Doubly linked consistency: forward iteration is exactly the spec list, backward iteration its
reverse, no slot twice; and any fuel `≥ size` gives the same lists (the walks end at `NULL`). -/
theorem C15_refines (p : Params) (hp : p.chunkLen = 2 ^ p.chunkSh) (ops : List Op) :
    forward (run p ops).1 = (run p ops).2 ∧
    backward (run p ops).1 = (run p ops).2.reverse ∧
    (run p ops).2.Nodup ∧
    ∀ fuel, (run p ops).1.size ≤ fuel →
      forwardFuel (run p ops).1 fuel = (run p ops).2 ∧
      backwardFuel (run p ops).1 fuel = (run p ops).2.reverse := by
  have h := Inv.run hp ops
  refine ⟨h.forward_eq, h.backward_eq, h.c.spec_nodup, fun fuel hf => ?_⟩
  rw [h.c.size] at hf
  exact ⟨h.l.forwardFuel_eq h.c.spec_nodup fuel hf, h.l.backwardFuel_eq h.c.spec_nodup fuel hf⟩

/-- The linked structure in pointer terms (`x->next->prev == x`, `x->prev->next == x`,
`first->prev == NULL`, `last->next == NULL`). -/
theorem C15_links (p : Params) (hp : p.chunkLen = 2 ^ p.chunkSh) (ops : List Op) :
    (run p ops).1.first = (run p ops).2.head?.map (addr p) ∧
    (run p ops).1.last = (run p ops).2.getLast?.map (addr p) ∧
    (∀ x, x ∈ (run p ops).2 →
      (run p ops).1.rd (addr p x) =
        ⟨x, (prevOf (run p ops).2 x).map (addr p), (nextOf (run p ops).2 x).map (addr p)⟩) ∧
    (∀ x q, x ∈ (run p ops).2 → ((run p ops).1.rd (addr p x)).next = some q →
      ((run p ops).1.rd q).prev = some (addr p x)) ∧
    (∀ x q, x ∈ (run p ops).2 → ((run p ops).1.rd (addr p x)).prev = some q →
      ((run p ops).1.rd q).next = some (addr p x)) ∧
    (∀ x, (run p ops).2.head? = some x → ((run p ops).1.rd (addr p x)).prev = none) ∧
    (∀ x, (run p ops).2.getLast? = some x → ((run p ops).1.rd (addr p x)).next = none) := by
  have h := Inv.run hp ops
  have hnd := h.c.spec_nodup
  refine ⟨h.l.first, h.l.last, h.l.cell, ?_, ?_, ?_, ?_⟩
  · intro x q hx hq
    rw [h.l.cell x hx] at hq
    obtain ⟨y, hN, rfl⟩ := Option.map_eq_some_iff.1 hq
    rw [h.l.cell y (nextOf_mem hN).2, (prevOf_eq_some_iff hnd).2 hN]
    rfl
  · intro x q hx hq
    rw [h.l.cell x hx] at hq
    obtain ⟨y, hP, rfl⟩ := Option.map_eq_some_iff.1 hq
    rw [h.l.cell y (prevOf_mem hP).1, (prevOf_eq_some_iff hnd).1 hP]
    rfl
  · intro x hx
    rw [h.l.cell x (List.mem_of_head? hx), prevOf_head? hnd hx]; rfl
  · intro x hx
    rw [h.l.cell x (List.mem_of_getLast? hx), nextOf_getLast? hnd hx]; rfl

theorem C15_size (p : Params) (hp : p.chunkLen = 2 ^ p.chunkSh) (ops : List Op) :
    (run p ops).1.size = (run p ops).2.length ∧
    (run p ops).1.size = (run p ops).1.emptyIndex - (run p ops).1.freeSlots.toList.length ∧
    (run p ops).1.freeSlots.toList.length ≤ (run p ops).1.emptyIndex ∧
    (run p ops).1.emptyIndex ≤ (run p ops).1.capacity ∧
    (run p ops).1.capacity = (run p ops).1.nChunks * p.chunkLen := by
  have h := Inv.run hp ops
  have := h.c.cnt
  exact ⟨h.c.size, by omega, by omega, h.c.le, h.c.cap⟩

/-- Slot bookkeeping; the slot the next `newEntry` would hand out is not live; no assert has fired
and no access was out of bounds. -/
theorem C15_slots (p : Params) (hp : p.chunkLen = 2 ^ p.chunkSh) (ops : List Op) :
    (∀ x, x ∈ (run p ops).2 →
      x < (run p ops).1.emptyIndex ∧ x ∉ (run p ops).1.freeSlots.toList ∧
      ((run p ops).1.rd (addr p x)).mySlot = x) ∧
    (run p ops).1.freeSlots.toList.Nodup ∧
    (∀ x, x ∈ (run p ops).1.freeSlots.toList → x < (run p ops).1.emptyIndex) ∧
    (newEntry p (run p ops).1).2 ∉ (run p ops).2 ∧
    (run p ops).1.assertFailed = false ∧ (run p ops).1.oob = false := by
  have h := Inv.run hp ops
  have hnd := List.nodup_append.1 h.c.nodup
  refine ⟨fun x hx => ⟨h.c.lt x (List.mem_append_left _ hx), fun hf => hnd.2.2 x hx x hf rfl, ?_⟩,
    hnd.2.1, fun x hx => h.c.lt x (List.mem_append_right _ hx), ?_, h.c.noAssert, h.c.noOob⟩
  · rw [h.l.cell x hx]
  · have h' := (h.newEntry hp).c.spec_nodup
    intro hm
    exact (List.nodup_append.1 h').2.2 _ hm _ (by simp) rfl

/-- The asserts of `newEntry`/`deleteEntry` never fire and no access leaves the allocated
chunks — also during the *next* operation, whatever it is. -/
theorem C15_no_fault (p : Params) (hp : p.chunkLen = 2 ^ p.chunkSh) (ops : List Op) (op : Op) :
    (stepCore p (run p ops).1 op).1.assertFailed = false ∧
    (stepCore p (run p ops).1 op).1.oob = false := by
  have h := (Inv.run hp ops).stepCore hp op
  exact ⟨h.c.noAssert, h.c.noOob⟩

theorem C15_address (p : Params) (hp : p.chunkLen = 2 ^ p.chunkSh) :
    (∀ x y, (x >>> p.chunkSh, x &&& (p.chunkLen - 1)) = (y >>> p.chunkSh, y &&& (p.chunkLen - 1))
      → x = y) ∧
    (∀ x, x &&& (p.chunkLen - 1) < p.chunkLen) ∧
    (∀ x, addr p x = (x >>> p.chunkSh, x &&& (p.chunkLen - 1))) ∧
    (∀ ops x, x < (run p ops).1.capacity →
      x >>> p.chunkSh < (run p ops).1.nChunks ∧
      (run p ops).1.chunks.inBounds (addr p x) = true) := by
  refine ⟨fun x y e => (addr_inj hp).1 e, fun x => addr_snd_lt hp x, fun _ => rfl, fun ops x hx => ?_⟩
  have h := Inv.run hp ops
  exact ⟨addr_fst_lt hp (by unfold State.nChunks; rw [← h.c.cap]; exact hx), h.c.inBounds_addr hp hx⟩

/-- The hypothesis `chunkLen = 2 ^ chunkSh` matters: with `CHUNK_SH = 2`, `CHUNK_LEN = 8` the
fifth `newEntry` gets slot 4 `< capacity = 8`, whose chunk id 1 is outside `m_chunks` (size 1). -/
theorem C15_address_needs_pow2 :
    let p : Params := ⟨2, 8⟩
    let s := (run p [.new, .new, .new, .new]).1
    (newEntry p s).2 = 4 ∧ 4 < s.capacity ∧ s.nChunks ≤ slot2chunk p 4 ∧
    (newEntry p s).1.oob = true := by
  decide +kernel

/-- Another way for `chunkLen = 2 ^ chunkSh` to fail: with `CHUNK_SH = 2`, `CHUNK_LEN = 2` the distinct slots
0 and 2 `< capacity` share one cell. -/
theorem C15_address_collision :
    let p : Params := ⟨2, 2⟩
    let s := (run p [.new, .new, .new]).1
    s.capacity = 4 ∧ (run p [.new, .new, .new]).2 = [0, 1, 2] ∧ addr p 0 = addr p 2 ∧
    forward s ≠ [0, 1, 2] := by
  decide +kernel

/-- An op leaves every other live entry live, at the same (state independent) address, with the
same slot and in the same relative order: the iteration after the op is the iteration before it
with the new slot appended (`new`), the deleted slot erased (`del`), or nothing (`clear`). -/
theorem C15_delete_untouched (p : Params) (hp : p.chunkLen = 2 ^ p.chunkSh) (ops : List Op)
    (op : Op) :
    forward (stepCore p (run p ops).1 op).1
      = specStep (forward (run p ops).1) op (stepCore p (run p ops).1 op).2 ∧
    ∀ x, x ∈ forward (run p ops).1 → op ≠ .clear → (stepCore p (run p ops).1 op).2 ≠ some x →
      x ∈ forward (stepCore p (run p ops).1 op).1 ∧
      ((run p ops).1.rd (addr p x)).mySlot = x ∧
      ((stepCore p (run p ops).1 op).1.rd (addr p x)).mySlot = x := by
  have h := Inv.run hp ops
  have h' := h.stepCore hp op
  rw [h'.forward_eq, h.forward_eq]
  refine ⟨rfl, fun x hx hc hr => ?_⟩
  have hx' : x ∈ specStep (run p ops).2 op (stepCore p (run p ops).1 op).2 := by
    cases op with
    | clear => exact absurd rfl hc
    | new => simp [specStep, stepCore, hx]
    | del k =>
      simp only [stepCore, h.forward_eq] at hr
      simp only [specStep]
      cases hk : (run p ops).2[k % (run p ops).2.length]? with
      | none => exact hx
      | some d =>
        simp only [hk] at hr
        exact (h.c.spec_nodup.mem_erase_iff).2 ⟨fun e => hr (by rw [e]), hx⟩
  refine ⟨hx', ?_, ?_⟩
  · rw [h.l.cell x hx]
  · rw [h'.l.cell x hx']

/-- Non-vacuity: a concrete sequence with `CHUNK_SH = 1` (chunks of 2) that grows the store twice,
deletes first / middle / last / only entries, reuses freed slots in FIFO order and clears. -/
example :
    (run ⟨1, 2⟩ [.new, .new, .new, .del 1, .new, .del 0, .del 5, .new, .new, .new, .new]).2
      = [2, 1, 0, 3, 4] ∧
    (run ⟨1, 2⟩ [.new, .new, .new, .del 1, .new, .del 0, .del 5, .new, .new, .new, .new]).1.capacity
      = 6 ∧
    forward (run ⟨1, 2⟩ [.new, .new, .new, .del 1, .new, .del 0, .del 5, .new, .new, .new, .new]).1
      = [2, 1, 0, 3, 4] ∧
    backward (run ⟨1, 2⟩ [.new, .new, .new, .del 1, .new, .del 0, .del 5, .new, .new, .new, .new]).1
      = [4, 3, 0, 1, 2] ∧
    (run ⟨1, 2⟩ [.new, .del 0, .new, .clear, .new, .new]).2 = [0, 1] := by
  decide +kernel

example : (⟨1, 2⟩ : Params).chunkLen = 2 ^ (⟨1, 2⟩ : Params).chunkSh := by decide
example : Params.production.chunkLen = 2 ^ Params.production.chunkSh := by decide


/-- the production macros (generated from `smart_list.h`) satisfy the hypothesis of all theorems above -/
theorem C15_production_params : Params.production.chunkLen = 2 ^ Params.production.chunkSh := by decide
