import Sympler.Cells
import Sympler.Gen.CellListsGen
/-!
# Bridge between the active-list operations regenerated from manager_cell.cpp by symbolic execution of the pointer statements
(`Sympler/Gen/CellListsGen.lean`, translator `translate/t_celllists.py`) and the intrusive list of the model
(`DLL.pushFront`, `DLL.remove` in `Sympler/Cells.lean`), on which the invariants of C09 (`C09_inv_*`) are proved.
Core Lean only.
-/
namespace Sympler.Cells
open Sympler.Gen.CellLists

def toPL (d : DLL) : PL := ⟨d.first, d.next, d.prev, d.count⟩

/-- same list head, same counter, same `next` / `prev` pointer of every object -/
def Same (a : PL) (d : DLL) : Prop :=
  a.first = d.first ∧ a.count = d.count ∧ (∀ i, a.next.get i = d.next.get i) ∧ (∀ i, a.prev.get i = d.prev.get i)

theorem activateCellLink_eq : activateCellLink = activateCell := rfl

theorem deactivateCellLink_eq : deactivateCellLink = deactivateCell := rfl

theorem activateCell_same (d : DLL) (c : Nat) : Same (activateCell (toPL d) c) (d.pushFront c) := by
  unfold Same activateCell DLL.pushFront toPL
  cases h : d.first <;> simp [h]

/-- **`ManagerCell::activateCell` / `activateCellLink`**: the statements of the C++ are `DLL.pushFront` -/
theorem Bridge_activate (d : DLL) (c : Nat) :
    Same (activateCell (toPL d) c) (d.pushFront c) ∧ Same (activateCellLink (toPL d) c) (d.pushFront c) :=
  ⟨activateCell_same d c, activateCellLink_eq ▸ activateCell_same d c⟩

theorem deactivateCell_same (d : DLL) (c : Nat) : Same (deactivateCell (toPL d) c) (d.remove c) := by
  unfold Same deactivateCell DLL.remove toPL
  cases hp : d.prev.get c with
  | none => cases hn : d.next.get c <;> simp [hp, hn]
  | some p =>
    -- `c->next` is read again after `c->prev->next = c->next`
    have e : (d.next.set p (d.next.get c)).get c = d.next.get c := by
      rw [Store.get_set]; split <;> simp_all
    simp only [hp, e]
    cases hn : d.next.get c <;> simp [hn]

/-- **`ManagerCell::deactivateCell` / `deactivateCellLink`**: the statements of the C++ are `DLL.remove` (reading `c->next` after
`c->prev->next = c->next` gives the same pointer even in a degenerate list) -/
theorem Bridge_deactivate (d : DLL) (c : Nat) :
    Same (deactivateCell (toPL d) c) (d.remove c) ∧ Same (deactivateCellLink (toPL d) c) (d.remove c) :=
  ⟨deactivateCell_same d c, deactivateCellLink_eq ▸ deactivateCell_same d c⟩

end Sympler.Cells
