import Sympler.CollideLemmas
import Sympler.Gen.CollideGen
/-!
# Bridge between the decisions regenerated from the C++ collision code (`Sympler/Gen/CollideGen.lean`, translator
`translate/t_collide.py`) and the hand-written model `Sympler/Collide.lean` (property C08).

Each statement says that a comparison, constant or formula the translator extracted from the current source is the one the model
uses.  Moving `t_travelled = HUGE_VAL` out of the loop, `t <= t_travelled`, `results[i] >= c_wt_time_eps`, another iteration bound,
another epsilon, another hit-time formula … make one of them false (or make the translator fail).  Core Lean only.
-/
namespace Sympler.Collide
open Sympler.Gen.Collide V3

/-- `solveHitTimeEquation` (force-free branch): the model's `hitTime` is the generated linear root with the generated rejection. -/
theorem Bridge_hitTime (c : Cfg) (w : Wall) (r v : V3) :
    hitTime c w r v =
      (let b := dot w.normal v
       let cc := dot w.normal r - w.nDotR c
       if b = 0 then none else if solverRejects (linearRoot b cc) then none else some (linearRoot b cc)) := by
  unfold hitTime solverRejects linearRoot timeEps
  simp only [decide_eq_true_eq]

/-- `WallTriangle::hit`: too late iff `t > p->dt`; accepted iff `t > c_wt_time_eps`; hit position `r + t v` (`hitPos` without force). -/
theorem Bridge_wallHit (c : Cfg) (w : Wall) (r v : V3) (dtLeft : Rat) :
    wallHit c w r v dtLeft =
      (match hitTime c w r v with
       | none => none
       | some t =>
         if beyondStep t dtLeft then none
         else if acceptTime t then
           let h := mk (hitPos (r 0) (v 0) t 0 1) (hitPos (r 1) (v 1) t 0 1) (hitPos (r 2) (v 2) t 0 1)
           if inFace c w h then some (t, h) else none
         else none) := by
  unfold wallHit beyondStep acceptTime timeEps hitPos
  cases hitTime c w r v with
  | none => rfl
  | some t =>
    have e : ∀ k : Fin 3, (add r (smul t v)) k = r k + t * v k + t * t / 2 * 0 / 1 := by
      intro k
      have h0 : t * t / 2 * 0 / 1 = (0 : Rat) := by simp [Rat.div_def]
      rw [h0, Rat.add_zero]
      rfl
    simp only [decide_eq_true_eq, e]

/-- `Cell::checkForHit`: a later wall replaces the candidate iff its time is strictly smaller. -/
theorem Bridge_better (c : Cfg) (r v : V3) (dtLeft : Rat) (best : Option Hit) (w : Wall) :
    better c r v dtLeft best w =
      (match wallHit c w r v dtLeft with
       | none => best
       | some (t, h) =>
         match best with
         | none => some ⟨t, h, w⟩
         | some b => if earlier t b.t then some ⟨t, h, w⟩ else best) := by
  unfold better earlier
  cases wallHit c w r v dtLeft with
  | none => rfl
  | some th =>
    cases best with
    | none => rfl
    | some b => simp only [decide_eq_true_eq]

/-- after a reflection the remaining time is `p->dt − t_travelled`, clamped at 0 -/
theorem Bridge_remaining (c : Cfg) (st : LoopSt) (h : Hit) : (applyHit c st h).dtLeft = remaining st.dtLeft h.t :=
  applyHit_dt c st h

/-- the loop bound, the per-pass reset of the earliest-hit search (the model's `checkForHit` starts from `none` in every pass of
`doCollision`), and the constants the correspondence passes to the model (`eps`, `delta = −c_wt_dist_eps`) -/
theorem Bridge_loop_constants :
    maxPasses = 100 ∧ earliestResetEveryPass = true ∧ timeEps = 0 ∧ distEps = -(1 / 100000) ∧
    mirrorDispEps = 1 / 10000000000 ∧ stochasticDispEps = 1 / 10000000000 ∧
    (∀ c dt p, step c dt p = match doCollision c p.cell maxPasses ⟨p.r, p.v, dt, []⟩ with
      | .tooManyHits => .tooManyHits
      | .done st => checkNewPosition c p.cell (add st.r (smul st.dtLeft st.v)) st.v st.trace) := by
  refine ⟨rfl, rfl, rfl, by decide +kernel, by decide +kernel, by decide +kernel, fun c dt p => rfl⟩

end Sympler.Collide
