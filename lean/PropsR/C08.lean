/-
Property C08, part A — reflection laws over ℝ.  (Part B, the collision loop: Props/C08.lean; part C, accelerated flight:
PropsR/C08Force.lean.)

All statements are about the GENERATED definitions `Sympler.Gen.ReflectorsReal.{Mirror,BounceBack,Stochastic}_reflect`
(translated from /repo/source/include/reflector/reflector_{mirror,bounce_back,stochastic}.h on every check run);
every proof unfolds those let-chains, so a changed sign or a swapped operand in the C++ breaks a proof here.

Frame: `n` = wall normal (unit, pointing INTO the domain), `t1` = `wall->inPlane()` (unit, orthogonal to `n`),
`t2 := n × t1` (computed inside `reflect`).
-/
import PropsR.Gen.ReflectorsReal
import Sympler.Collide
import Mathlib.Tactic.Ring
import Mathlib.Tactic.LinearCombination

namespace Sympler.PropsR.C08
open Sympler.Gen.ReflectorsReal
open Real

/-! ### vector identities (no hypotheses) -/

theorem ext3 {a b : V3} (hx : a.x = b.x) (hy : a.y = b.y) (hz : a.z = b.z) : a = b := by
  cases a; cases b; simp_all

theorem dot_comm (a b : V3) : V3.dot a b = V3.dot b a := by
  simp only [V3.dot]; ring

theorem add_dot (a b c : V3) : V3.dot (V3.add a b) c = V3.dot a c + V3.dot b c := by
  simp only [V3.dot, V3.add]; ring

theorem neg_dot (v n : V3) : V3.dot (V3.neg v) n = - V3.dot v n := by
  simp only [V3.dot, V3.neg]; ring

theorem cross_dot_left (a b : V3) : V3.dot (V3.cross a b) a = 0 := by
  simp only [V3.dot, V3.cross]; ring

theorem cross_dot_right (a b : V3) : V3.dot (V3.cross a b) b = 0 := by
  simp only [V3.dot, V3.cross]; ring

/-- Lagrange: `|a × b|² = |a|²|b|² − (a·b)²` -/
theorem cross_dot_self (a b : V3) :
    V3.dot (V3.cross a b) (V3.cross a b) = V3.dot a a * V3.dot b b - V3.dot a b * V3.dot a b := by
  simp only [V3.dot, V3.cross]; ring

theorem dot_self_nonneg (v : V3) : 0 ≤ V3.dot v v :=
  add_nonneg (add_nonneg (mul_self_nonneg v.x) (mul_self_nonneg v.y)) (mul_self_nonneg v.z)

theorem dot_self_eq_zero {v : V3} (h : V3.dot v v = 0) : v = ⟨0, 0, 0⟩ := by
  have hx := mul_self_nonneg v.x; have hy := mul_self_nonneg v.y; have hz := mul_self_nonneg v.z
  obtain ⟨hxy, hz⟩ := (add_eq_zero_iff_of_nonneg (add_nonneg hx hy) hz).mp h
  obtain ⟨hx, hy⟩ := (add_eq_zero_iff_of_nonneg hx hy).mp hxy
  exact ext3 (mul_self_eq_zero.mp hx) (mul_self_eq_zero.mp hy) (mul_self_eq_zero.mp hz)

/-- An orthonormal pair `n, t1` completed by `t2 = n × t1`. -/
structure Frame (n t1 : V3) : Prop where
  nn : V3.dot n n = 1
  tt : V3.dot t1 t1 = 1
  nt : V3.dot n t1 = 0

/-- non-vacuity: the frame of the face `z = 0` of a cuboid -/
example : Frame ⟨0, 0, 1⟩ ⟨1, 0, 0⟩ := ⟨by simp [V3.dot], by simp [V3.dot], by simp [V3.dot]⟩

def comb (n t1 : V3) (a b c : ℝ) : V3 :=
  V3.add (V3.add (V3.smul a n) (V3.smul b t1)) (V3.smul c (V3.cross n t1))

theorem comb_dot (n t1 u : V3) (a b c : ℝ) :
    V3.dot (comb n t1 a b c) u = a * V3.dot n u + b * V3.dot t1 u + c * V3.dot (V3.cross n t1) u := by
  simp only [comb, V3.dot, V3.add, V3.smul]; ring

theorem cross_cross (u n t1 : V3) : V3.cross u (V3.cross n t1) = comb n t1 (V3.dot u t1) (-V3.dot u n) 0 := by
  simp only [comb, V3.dot, V3.add, V3.smul, V3.cross]
  apply ext3 <;> ring

section
variable {n t1 : V3} (F : Frame n t1)
include F

theorem comb_dot_n (a b c : ℝ) : V3.dot (comb n t1 a b c) n = a := by
  rw [comb_dot, F.nn, dot_comm t1 n, F.nt, cross_dot_left]; ring

theorem comb_dot_t1 (a b c : ℝ) : V3.dot (comb n t1 a b c) t1 = b := by
  rw [comb_dot, F.nt, F.tt, cross_dot_right]; ring

theorem comb_dot_t2 (a b c : ℝ) : V3.dot (comb n t1 a b c) (V3.cross n t1) = c := by
  rw [comb_dot, dot_comm n, cross_dot_left, dot_comm t1, cross_dot_right, cross_dot_self, F.nn, F.tt, F.nt]; ring

theorem comb_dot_self (a b c : ℝ) : V3.dot (comb n t1 a b c) (comb n t1 a b c) = a * a + b * b + c * c := by
  rw [comb_dot, dot_comm n, dot_comm t1, dot_comm (V3.cross n t1), comb_dot_n F, comb_dot_t1 F, comb_dot_t2 F]

/-- Parseval for the frame `{n, t1, n × t1}`, from Lagrange's identity for `u × (n × t1)` -/
theorem parseval (u : V3) :
    V3.dot u u = V3.dot u n * V3.dot u n + V3.dot u t1 * V3.dot u t1 +
      V3.dot u (V3.cross n t1) * V3.dot u (V3.cross n t1) := by
  have hL := cross_dot_self u (V3.cross n t1)
  rw [cross_cross, comb_dot_self F, cross_dot_self n t1, F.nn, F.tt, F.nt] at hL
  linear_combination -hL

theorem frame_complete (v : V3) :
    v = comb n t1 (V3.dot v n) (V3.dot v t1) (V3.dot v (V3.cross n t1)) := by
  -- the difference is orthogonal to `n`, `t1` and `n × t1`, so by Parseval its square is `0`
  have h := parseval F (V3.add v (V3.neg (comb n t1 (V3.dot v n) (V3.dot v t1) (V3.dot v (V3.cross n t1)))))
  rw [add_dot _ _ n, add_dot _ _ t1, add_dot _ _ (V3.cross n t1), neg_dot, neg_dot, neg_dot,
    comb_dot_n F, comb_dot_t1 F, comb_dot_t2 F, add_neg_cancel, add_neg_cancel, add_neg_cancel] at h
  have h0 := dot_self_eq_zero (h.trans (by ring))
  generalize comb n t1 (V3.dot v n) (V3.dot v t1) (V3.dot v (V3.cross n t1)) = p at h0 ⊢
  simp only [V3.add, V3.neg, V3.mk.injEq, add_neg_eq_zero] at h0
  exact ext3 h0.1 h0.2.1 h0.2.2

end


/-! ### ReflectorMirror -/

theorem mirror_eq (eps : ℝ) (v hit n t1 : V3) :
    Mirror_reflect eps v hit n t1 =
      (V3.add hit (V3.smul eps n),
       comb n t1 (V3.dot (V3.neg v) n) (V3.dot v t1) (V3.dot v (V3.cross n t1))) := rfl

/-- mirror: the normal velocity component is reversed exactly -/
theorem C08_mirror_normal (eps : ℝ) (v hit n t1 : V3) (F : Frame n t1) :
    V3.dot (Mirror_reflect eps v hit n t1).2 n = - V3.dot v n := by
  rw [mirror_eq]; simp only [comb_dot_n F, neg_dot]

/-- mirror: both tangential components are unchanged -/
theorem C08_mirror_tangential (eps : ℝ) (v hit n t1 : V3) (F : Frame n t1) :
    V3.dot (Mirror_reflect eps v hit n t1).2 t1 = V3.dot v t1 ∧
    V3.dot (Mirror_reflect eps v hit n t1).2 (V3.cross n t1) = V3.dot v (V3.cross n t1) := by
  rw [mirror_eq]; exact ⟨comb_dot_t1 F _ _ _, comb_dot_t2 F _ _ _⟩

theorem comb_neg (n t1 : V3) (a b c : ℝ) :
    comb n t1 (-a) b c = V3.add (comb n t1 a b c) (V3.neg (V3.smul (2 * a) n)) := by
  simp only [comb, V3.add, V3.smul, V3.neg]
  apply ext3 <;> ring

/-- mirror: `v' = v − 2 (v·n) n` -/
theorem C08_mirror_explicit (eps : ℝ) (v hit n t1 : V3) (F : Frame n t1) :
    (Mirror_reflect eps v hit n t1).2 = V3.add v (V3.neg (V3.smul (2 * V3.dot v n) n)) := by
  rw [mirror_eq, neg_dot, comb_neg, ← frame_complete F v]

/-- mirror: the speed is preserved (`v'·v' = v·v`) -/
theorem C08_mirror_speed (eps : ℝ) (v hit n t1 : V3) (F : Frame n t1) :
    V3.dot (Mirror_reflect eps v hit n t1).2 (Mirror_reflect eps v hit n t1).2 = V3.dot v v := by
  rw [mirror_eq, comb_dot_self F, neg_dot, parseval F v]; ring

theorem C08_mirror_speed_norm (eps : ℝ) (v hit n t1 : V3) (F : Frame n t1) :
    V3.norm (Mirror_reflect eps v hit n t1).2 = V3.norm v := by
  unfold V3.norm; rw [C08_mirror_speed eps v hit n t1 F]

/-- mirror: the particle is put at `hit + eps n` -/
theorem C08_mirror_position (eps : ℝ) (v hit n t1 : V3) :
    (Mirror_reflect eps v hit n t1).1 = V3.add hit (V3.smul eps n) := rfl

/-! ### ReflectorBounceBack -/

theorem C08_bounce_back (eps : ℝ) (v hit n t1 : V3) :
    (BounceBack_reflect eps v hit n t1).2 = V3.neg v ∧
    (BounceBack_reflect eps v hit n t1).1 = V3.add hit (V3.smul eps n) := ⟨rfl, rfl⟩

theorem C08_bounce_back_speed (eps : ℝ) (v hit n t1 : V3) :
    V3.norm (BounceBack_reflect eps v hit n t1).2 = V3.norm v := by
  simp only [BounceBack_reflect, V3.norm, V3.dot, V3.neg]; congr 1; ring

/-! ### ReflectorStochastic -/

theorem stochastic_eq (eps u1 u2 : ℝ) (v hit n t1 : V3) :
    Stochastic_reflect eps u1 u2 v hit n t1 =
      (V3.add hit (V3.smul eps n),
       comb n t1 (V3.norm v * Real.cos (u1 * π / 2))
         (V3.norm v * Real.sin (u1 * π / 2) * Real.cos (u2 * 2 * π))
         (V3.norm v * Real.sin (u1 * π / 2) * Real.sin (u2 * 2 * π))) := rfl

theorem norm_nonneg (v : V3) : 0 ≤ V3.norm v := Real.sqrt_nonneg _

theorem sphere_sq {r c1 s1 c2 s2 : ℝ} (h1 : c1 ^ (2 : ℕ) + s1 ^ (2 : ℕ) = 1) (h2 : c2 ^ (2 : ℕ) + s2 ^ (2 : ℕ) = 1) :
    r * c1 * (r * c1) + r * s1 * c2 * (r * s1 * c2) + r * s1 * s2 * (r * s1 * s2) = r * r := by
  linear_combination r * r * h1 + r * r * (s1 * s1) * h2

/-- stochastic: the speed is preserved for ALL values of the two random numbers -/
theorem C08_stochastic_speed (eps u1 u2 : ℝ) (v hit n t1 : V3) (F : Frame n t1) :
    V3.norm (Stochastic_reflect eps u1 u2 v hit n t1).2 = V3.norm v := by
  rw [stochastic_eq]
  show Real.sqrt (V3.dot _ _) = V3.norm v
  rw [comb_dot_self F, sphere_sq (Real.cos_sq_add_sin_sq _) (Real.cos_sq_add_sin_sq _)]
  exact Real.sqrt_mul_self (norm_nonneg v)

theorem norm_pos_of_ne {v : V3} (hv : v ≠ ⟨0, 0, 0⟩) : 0 < V3.norm v :=
  Real.sqrt_pos.mpr (lt_of_le_of_ne (dot_self_nonneg v) fun h => hv (dot_self_eq_zero h.symm))

/-- stochastic: the new normal component is `|v| cos(u1 π/2)`; for `0 ≤ u1 < 1` (the range of `uniform()`)
and `v ≠ 0` it is positive: the particle is re-emitted INTO the domain (`n` is the inward normal). -/
theorem C08_stochastic_inward (eps u1 u2 : ℝ) (v hit n t1 : V3) (F : Frame n t1) :
    V3.dot (Stochastic_reflect eps u1 u2 v hit n t1).2 n = V3.norm v * Real.cos (u1 * π / 2) ∧
    (0 ≤ u1 → u1 < 1 → v ≠ ⟨0, 0, 0⟩ → 0 < V3.dot (Stochastic_reflect eps u1 u2 v hit n t1).2 n) := by
  rw [stochastic_eq]
  refine ⟨comb_dot_n F _ _ _, fun h0 h1 hv => ?_⟩
  rw [comb_dot_n F]
  have hpi := Real.pi_pos
  -- `−π/2 < 0 ≤ u1 π/2 < π/2`
  exact mul_pos (norm_pos_of_ne hv) (Real.cos_pos_of_mem_Ioo
    ⟨(neg_neg_of_pos (half_pos hpi)).trans_le (div_nonneg (mul_nonneg h0 hpi.le) zero_le_two),
     div_lt_div_of_pos_right (mul_lt_of_lt_one_left hpi h1) two_pos⟩)

theorem C08_stochastic_position (eps u1 u2 : ℝ) (v hit n t1 : V3) :
    (Stochastic_reflect eps u1 u2 v hit n t1).1 = V3.add hit (V3.smul eps n) := rfl

/-! ### re-emission is strictly inside -/

/-- All three reflectors put the particle at `r' = hit + eps n`; its distance from the wall plane along the inward
unit normal is exactly `eps`, hence `> 0` for `eps > 0`: strictly on the domain side of the wall. -/
theorem C08_reemitted_inside (eps : ℝ) (hit n : V3) (hn : V3.dot n n = 1) (heps : 0 < eps) :
    V3.dot (V3.add (V3.add hit (V3.smul eps n)) (V3.neg hit)) n = eps ∧
    0 < V3.dot (V3.add (V3.add hit (V3.smul eps n)) (V3.neg hit)) n := by
  have h : V3.dot (V3.add (V3.add hit (V3.smul eps n)) (V3.neg hit)) n = eps := by
    simp only [V3.dot, V3.add, V3.smul, V3.neg] at *
    linear_combination eps * hn
  exact ⟨h, by rw [h]; exact heps⟩

/-- the same in coordinates for the cuboid face `z = a` with inward normal `−e_z`: the re-emitted particle is at `z = a − eps`,
below the wall. -/
example (eps a : ℝ) (heps : 0 < eps) (hit : V3) (hh : hit.z = a) :
    (V3.add hit (V3.smul eps ⟨0, 0, -1⟩)).z = a - eps ∧ (V3.add hit (V3.smul eps ⟨0, 0, -1⟩)).z < a := by
  simp only [V3.add, V3.smul, hh]; constructor <;> linarith

/-! ### the executable model uses the Rat instances of the generated definitions -/

/-- embedding of the model's `Fin 3 → Rat` vectors -/
def toR (a : Sympler.Collide.V3) : V3 := ⟨(a 0 : ℝ), (a 1 : ℝ), (a 2 : ℝ)⟩

theorem toR_add (a b : Sympler.Collide.V3) : toR (Sympler.Collide.V3.add a b) = V3.add (toR a) (toR b) := by
  simp only [toR, V3.add, Sympler.Collide.V3.add, Rat.cast_add]

theorem toR_neg (a : Sympler.Collide.V3) : toR (Sympler.Collide.V3.neg a) = V3.neg (toR a) := by
  simp only [toR, V3.neg, Sympler.Collide.V3.neg, Rat.cast_neg]

theorem toR_smul (s : ℚ) (a : Sympler.Collide.V3) : toR (Sympler.Collide.V3.smul s a) = V3.smul (s : ℝ) (toR a) := by
  simp only [toR, V3.smul, Sympler.Collide.V3.smul, Rat.cast_mul]

theorem toR_dot (a b : Sympler.Collide.V3) : ((Sympler.Collide.V3.dot a b : ℚ) : ℝ) = V3.dot (toR a) (toR b) := by
  simp only [toR, V3.dot, Sympler.Collide.V3.dot, Rat.cast_add, Rat.cast_mul]

theorem toR_cross (a b : Sympler.Collide.V3) : toR (Sympler.Collide.V3.cross a b) = V3.cross (toR a) (toR b) := by
  simp only [toR, V3.cross, Sympler.Collide.V3.cross, Rat.cast_sub, Rat.cast_mul]
  rfl

theorem C08_mirror_rat_instance (eps : ℚ) (v hit n t1 : Sympler.Collide.V3) :
    Mirror_reflect (eps : ℝ) (toR v) (toR hit) (toR n) (toR t1) =
      (toR (Sympler.Collide.mirrorReflect eps v hit n t1).1, toR (Sympler.Collide.mirrorReflect eps v hit n t1).2) := by
  simp only [Mirror_reflect, Sympler.Collide.mirrorReflect, toR_add, toR_smul, toR_dot, toR_neg, toR_cross]

theorem C08_bounce_back_rat_instance (eps : ℚ) (v hit n t1 : Sympler.Collide.V3) :
    BounceBack_reflect (eps : ℝ) (toR v) (toR hit) (toR n) (toR t1) =
      (toR (Sympler.Collide.bounceBackReflect eps v hit n t1).1,
       toR (Sympler.Collide.bounceBackReflect eps v hit n t1).2) := by
  simp only [BounceBack_reflect, Sympler.Collide.bounceBackReflect, toR_add, toR_smul, toR_neg]

end Sympler.PropsR.C08
