/-
Property C16 — "Built-in kernels are normalised and consistent with their gradient weight".

For every cutoff `rc > 0` each built-in kernel without wall correction (Lucy, Square, Linear)
  * is non-negative on its support `[0, rc]`,
  * vanishes at the cutoff,
  * integrates to one over its support (3-D spherical-shell integral `∫₀^rc 4π r² W(r) dr`),
  * has a self-contribution branch (`r == NULL`) that agrees with the `r = 0` value of the pair branch,
  * and, where a gradient weight is provided (Lucy, Square), that weight equals `-W'(r)/r`
    for all `0 < r < rc` (stated as `HasDerivAt W (-(r * weight r)) r`).
`Linear::weight` throws unconditionally in the C++ (no gradient weight is provided), so there is
no weight theorem for Linear.

All definitions come from the GENERATED file `PropsR/Gen/KernelsReal.lean`
(translated from `wf_{lucy,square,linear}.{h,cpp}`); every proof below unfolds the generated
prefactors, so a changed prefactor / exponent in the C++ makes the corresponding proof fail.
-/
import PropsR.Gen.KernelsReal
import Mathlib.MeasureTheory.Integral.IntervalIntegral.FundThmCalculus
import Mathlib.Analysis.Calculus.Deriv.Pow
import Mathlib.Analysis.Calculus.Deriv.Mul
import Mathlib.Analysis.Calculus.Deriv.Add
import Mathlib.Tactic.Ring
import Mathlib.Tactic.FieldSimp
import Mathlib.Tactic.Positivity

namespace Sympler.PropsR.C16
open Sympler.Gen.KernelsReal
open Real

/-! ### The calculus fact shared by the three kernels: the radial integral of a polynomial kernel -/

/-- `d/dx [c * (a₃ x³ + a₄ x⁴ + a₅ x⁵ + a₆ x⁶ + a₇ x⁷)]`. -/
private theorem hasDerivAt_poly (c a3 a4 a5 a6 a7 x : ℝ) :
    HasDerivAt (fun x : ℝ => c * (a3 * x ^ 3 + a4 * x ^ 4 + a5 * x ^ 5 + a6 * x ^ 6 + a7 * x ^ 7))
      (c * (3 * a3 * x ^ 2 + 4 * a4 * x ^ 3 + 5 * a5 * x ^ 4 + 6 * a6 * x ^ 5 + 7 * a7 * x ^ 6)) x := by
  have h3 := (hasDerivAt_pow 3 x).const_mul a3
  have h4 := (hasDerivAt_pow 4 x).const_mul a4
  have h5 := (hasDerivAt_pow 5 x).const_mul a5
  have h6 := (hasDerivAt_pow 6 x).const_mul a6
  have h7 := (hasDerivAt_pow 7 x).const_mul a7
  have h := ((((h3.add h4).add h5).add h6).add h7).const_mul c
  refine h.congr_deriv ?_
  push_cast
  ring

/-- `∫₀^rc 4π r² W(r) dr` for `W(r) = F (b₀ + b₁ r + b₂ r² + b₃ r³ + b₄ r⁴)` (fundamental theorem of
calculus). -/
private theorem integral_radial_poly (F b0 b1 b2 b3 b4 rc : ℝ) (W : ℝ → ℝ)
    (hW : ∀ r, W r = F * (b0 + b1 * r + b2 * r ^ 2 + b3 * r ^ 3 + b4 * r ^ 4)) :
    ∫ r in (0 : ℝ)..rc, 4 * π * r ^ 2 * W r
      = 4 * π * F * (b0 / 3 * rc ^ 3 + b1 / 4 * rc ^ 4 + b2 / 5 * rc ^ 5 + b3 / 6 * rc ^ 6
          + b4 / 7 * rc ^ 7) := by
  have hd := fun r => (hasDerivAt_poly (4 * π * F) (b0 / 3) (b1 / 4) (b2 / 5) (b3 / 6) (b4 / 7) r).congr_deriv
    (show _ = 4 * π * r ^ 2 * W r by rw [hW]; ring)
  have hc : Continuous W := by rw [funext hW]; fun_prop
  rw [intervalIntegral.integral_eq_sub_of_hasDerivAt (fun r _ => hd r)
    (((continuous_const.mul (continuous_pow 2)).mul hc).intervalIntegrable _ _)]
  ring

/-- `4π (K / E) V = 1` once numerator and denominator agree. -/
private theorem mul_div_mul_eq_one {K E V : ℝ} (hE : E ≠ 0) (h : 4 * π * K * V = E) :
    4 * π * (K / E) * V = 1 := by
  rw [show 4 * π * (K / E) * V = 4 * π * K * V / E by ring, h, div_self hE]

/-! ## Lucy  (`wf_lucy.h`, `Lucy::setup` in `wf_lucy.cpp`) -/

theorem C16_Lucy_nonneg (rc r : ℝ) (hrc : 0 < rc) (hr0 : 0 ≤ r) (hr : r ≤ rc) :
    0 ≤ Lucy_interpolate rc r := by
  unfold Lucy_interpolate Lucy_factor_i
  have h1 : 0 ≤ rc - r := sub_nonneg.mpr hr
  positivity

theorem C16_Lucy_zero_at_cutoff (rc : ℝ) : Lucy_interpolate rc rc = 0 := by
  unfold Lucy_interpolate
  simp

theorem C16_Lucy_normalised (rc : ℝ) (hrc : 0 < rc) :
    ∫ r in (0 : ℝ)..rc, 4 * π * r ^ 2 * Lucy_interpolate rc r = 1 := by
  rw [integral_radial_poly (Lucy_factor_i rc) (rc ^ 4) 0 (-6 * rc ^ 2) (8 * rc) (-3) rc _
    (fun r => by unfold Lucy_interpolate; ring)]
  exact mul_div_mul_eq_one (by positivity) (by ring)

theorem C16_Lucy_self (rc : ℝ) : Lucy_interpolate_self rc = Lucy_interpolate rc 0 := by
  unfold Lucy_interpolate_self Lucy_interpolate
  ring

/-- `Lucy::weight(r) = -W'(r)/r` for `0 < r < rc`. -/
theorem C16_Lucy_weight (rc r : ℝ) (hrc : 0 < rc) (_hr0 : 0 < r) (_hr : r < rc) :
    HasDerivAt (fun x => Lucy_interpolate rc x) (-(r * Lucy_weight rc r)) r := by
  unfold Lucy_interpolate Lucy_weight
  have hA := (((hasDerivAt_id' r).const_mul (3 : ℝ)).const_add rc).const_mul (Lucy_factor_i rc)
  have hB := ((hasDerivAt_id' r).const_sub rc).fun_pow 3
  refine (hA.fun_mul hB).congr_deriv ?_
  unfold Lucy_factor_i Lucy_factor_w
  push_cast
  ring

theorem C16_Lucy_weight_self (rc : ℝ) : Lucy_weight_self rc = Lucy_weight rc 0 := by
  unfold Lucy_weight_self Lucy_weight
  ring

/-! ## Square  (`wf_square.h`, `Square::setup` in `wf_square.cpp`) -/

theorem C16_Square_nonneg (rc r : ℝ) (hrc : 0 < rc) (_hr0 : 0 ≤ r) (hr : r ≤ rc) :
    0 ≤ Square_interpolate rc r := by
  unfold Square_interpolate Square_factor
  have h1 : 0 ≤ rc - r := sub_nonneg.mpr hr
  positivity

theorem C16_Square_zero_at_cutoff (rc : ℝ) : Square_interpolate rc rc = 0 := by
  unfold Square_interpolate
  simp

theorem C16_Square_normalised (rc : ℝ) (hrc : 0 < rc) :
    ∫ r in (0 : ℝ)..rc, 4 * π * r ^ 2 * Square_interpolate rc r = 1 := by
  rw [integral_radial_poly (Square_factor rc) (rc ^ 2) (-2 * rc) 1 0 0 rc _
    (fun r => by unfold Square_interpolate; ring)]
  exact mul_div_mul_eq_one (by positivity) (by ring)

theorem C16_Square_self (rc : ℝ) : Square_interpolate_self rc = Square_interpolate rc 0 := by
  unfold Square_interpolate_self Square_interpolate
  ring

/-- `Square::weight(r) = -W'(r)/r` for `0 < r < rc` (the C++ throws for `r = 0`). -/
theorem C16_Square_weight (rc r : ℝ) (hrc : 0 < rc) (hr0 : 0 < r) (_hr : r < rc) :
    HasDerivAt (fun x => Square_interpolate rc x) (-(r * Square_weight rc r)) r := by
  unfold Square_interpolate Square_weight
  have hB := (hasDerivAt_id' r).const_sub rc
  have e : r * (rc / r - 1) = rc - r := by rw [mul_sub, mul_div_cancel₀ _ hr0.ne', mul_one]
  refine ((hB.const_mul (Square_factor rc)).fun_mul hB).congr_deriv ?_
  rw [mul_left_comm, e]
  ring

/-! ## Linear  (`wf_linear.h`, `Linear::setup` in `wf_linear.cpp`)

`Linear::weight` throws unconditionally (`gError`): the kernel provides no gradient weight, so
there is nothing to relate to `-W'(r)/r` and no `C16_Linear_weight`. -/

theorem C16_Linear_nonneg (rc r : ℝ) (hrc : 0 < rc) (_hr0 : 0 ≤ r) (hr : r ≤ rc) :
    0 ≤ Linear_interpolate rc r := by
  unfold Linear_interpolate Linear_factor
  have h1 : 0 ≤ rc - r := sub_nonneg.mpr hr
  positivity

theorem C16_Linear_zero_at_cutoff (rc : ℝ) : Linear_interpolate rc rc = 0 := by
  unfold Linear_interpolate
  simp

theorem C16_Linear_normalised (rc : ℝ) (hrc : 0 < rc) :
    ∫ r in (0 : ℝ)..rc, 4 * π * r ^ 2 * Linear_interpolate rc r = 1 := by
  rw [integral_radial_poly (Linear_factor rc) rc (-1) 0 0 0 rc _
    (fun r => by unfold Linear_interpolate; ring)]
  exact mul_div_mul_eq_one (by positivity) (by ring)

theorem C16_Linear_self (rc : ℝ) : Linear_interpolate_self rc = Linear_interpolate rc 0 := by
  unfold Linear_interpolate_self Linear_interpolate
  ring

/-- Non-vacuity of the hypotheses used above (`0 < rc`, `0 < r < rc`). -/
example : ∃ rc r : ℝ, 0 < rc ∧ 0 < r ∧ r < rc := ⟨2, 1, two_pos, one_pos, one_lt_two⟩

end Sympler.PropsR.C16
