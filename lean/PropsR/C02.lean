import Props.C02
import Mathlib.Analysis.Normed.Group.Basic
import Mathlib.Data.Rat.Cast.Order

/-!
Property C02 — geometric half (over ℝ, any normed group `E`, e.g. `EuclideanSpace ℝ (Fin 3)`).

`x0 i` = position of particle `i` at the last rebuild, `x i` = position now (both unwrapped, i.e.
`x i - x0 i` is the accumulated displacement `disp − disp__Old` the scan looks at), `rc` = interaction
cutoff, `s` = skin, `rc + s = Gen.Verlet.listCutoff rc s` = cutoff the list was built with.

The list built at the rebuild contains every pair whose (minimum-image) separation was `< rc + s`
(property C01).  The theorems below show that, as long as the displacement criterion holds, every
pair that is now closer than `rc` was closer than `rc + s` at the rebuild — hence is in the list.
-/
namespace Sympler.Verlet
open Sympler.Gen.Verlet

variable {E : Type*} [NormedAddCommGroup E]

/-- **Verlet-list geometry** (reverse triangle inequality), with an arbitrary fixed image shift `v`
(`v = 0`: direct separation; `v = k•L`: the periodic image realising the minimum image now): the
separation at the rebuild exceeds the present one by at most the two displacements. -/
theorem norm_rebuild_le (xi xj x0i x0j v : E) :
    ‖x0i - x0j + v‖ ≤ ‖xi - xj + v‖ + (‖xi - x0i‖ + ‖xj - x0j‖) := by
  have e : x0i - x0j + v = (xi - xj + v) - ((xi - x0i) - (xj - x0j)) := by abel
  rw [e]
  exact norm_sub_le_of_le le_rfl (norm_sub_le _ _)

theorem C02_verlet_geometric_shift (xi xj x0i x0j v : E) (rc s : ℝ)
    (hd : ‖xi - x0i‖ + ‖xj - x0j‖ < s) (hnow : ‖xi - xj + v‖ < rc) :
    ‖x0i - x0j + v‖ < rc + s :=
  (norm_rebuild_le xi xj x0i x0j v).trans_lt (add_lt_add hnow hd)

theorem C02_verlet_geometric (xi xj x0i x0j : E) (rc s : ℝ)
    (hd : ‖xi - x0i‖ + ‖xj - x0j‖ < s) (hnow : ‖xi - xj‖ < rc) :
    ‖x0i - x0j‖ < rc + s := by
  simpa using C02_verlet_geometric_shift xi xj x0i x0j 0 rc s hd (by simpa using hnow)

/-- **Minimum image**: for any set `Λ` of image shifts (the lattice `{(k₁L₁,k₂L₂,k₃L₃)}` restricted
to the periodic directions), if SOME image of the pair is now closer than `rc`, the SAME image was
closer than `rc + s` at the rebuild; so the minimum-image separation at the rebuild was below the
list cutoff. -/
theorem C02_verlet_geometric_minimage (Λ : Set E) (xi xj x0i x0j : E) (rc s : ℝ)
    (hd : ‖xi - x0i‖ + ‖xj - x0j‖ < s) (hnow : ∃ v ∈ Λ, ‖xi - xj + v‖ < rc) :
    ∃ v ∈ Λ, ‖x0i - x0j + v‖ < rc + s := by
  obtain ⟨v, hv, h⟩ := hnow
  exact ⟨v, hv, C02_verlet_geometric_shift xi xj x0i x0j v rc s hd h⟩

/-- the list cutoff set by `VerletCreator::setup` (generated `listCutoff`) is exactly the `rc + s`
of the theorems above -/
theorem C02_listCutoff_cast (rc s : ℚ) : ((listCutoff rc s : ℚ) : ℝ) = (rc : ℝ) + (s : ℝ) := by
  unfold listCutoff; push_cast; rfl

/-- **Composition with the scan**: particles `ι`; `slot i = some k` says that particle `i` is the
`k`-th scanned particle (free, colour with an `IntegratorPosition`) and `ms[k]` is at least its
displacement magnitude; `slot i = none` says it is not scanned and did not move (frozen, or colour
without position integrator).  If the generated scan decides "no rebuild", then for every image
shift every pair of different particles that is now closer than `rc` was closer than `rc + skin`
at the rebuild. -/
theorem C02_scan_keeps_close_pairs {ι : Type*} (x x0 : ι → E) (skin : ℚ) (ms : List ℚ)
    (slot : ι → Option ℕ)
    (hslot : ∀ i, (∃ k, slot i = some k ∧ ∃ h : k < ms.length, ‖x i - x0 i‖ ≤ ((ms[k] : ℚ) : ℝ)) ∨
                  (slot i = none ∧ x i = x0 i))
    (hinj : ∀ i j k, slot i = some k → slot j = some k → i = j)
    (hskin : 0 ≤ skin) (hscan : scan skin ms = false) (rc : ℝ) (v : E) (i j : ι) (hij : i ≠ j)
    (hnow : ‖x i - x j + v‖ < rc) :
    ‖x0 i - x0 j + v‖ < rc + (skin : ℝ) := by
  obtain ⟨hpair, hsingle⟩ := C02_scan_sound skin ms hscan
  -- the two displacements together stay within the skin, whether or not the particles are scanned
  have hsum : ‖x i - x0 i‖ + ‖x j - x0 j‖ ≤ (skin : ℝ) := by
    rcases hslot i with ⟨ki, hki, hli, hbi⟩ | ⟨_, hzi⟩ <;>
      rcases hslot j with ⟨kj, hkj, hlj, hbj⟩ | ⟨_, hzj⟩
    · have hne : ki ≠ kj := fun h => hij (hinj i j ki hki (h ▸ hkj))
      have := Rat.cast_lt (K := ℝ).mpr (hpair ki kj hli hlj hne)
      rw [Rat.cast_add] at this
      exact (add_le_add hbi hbj).trans this.le
    · rw [hzj, sub_self, norm_zero, add_zero]
      exact hbi.trans (Rat.cast_lt.mpr (hsingle ki hli)).le
    · rw [hzi, sub_self, norm_zero, zero_add]
      exact hbj.trans (Rat.cast_lt.mpr (hsingle kj hlj)).le
    · rw [hzi, hzj, sub_self, sub_self, norm_zero, add_zero]
      exact Rat.cast_nonneg.mpr hskin
  exact (norm_rebuild_le (x i) (x j) (x0 i) (x0 j) v).trans_lt (add_lt_add_of_lt_of_le hnow hsum)

/-- (E = ℝ) two scanned particles approaching head-on,
`0 → 1/10` and `1 → 8/10`, skin `1/2`, `rc = 1`. -/
example : scan (1/2) [1/10, 2/10] = false := by decide +kernel

end Sympler.Verlet
