import Props.C01
import Props.C01Tables
import Props.C01General
import Props.C02
import Props.C03
import Props.C04
import Props.C05
import Props.C06
import Props.C07
import Props.C08
import Props.C09
import Props.C10
import Props.C11
import Props.C12
import Props.C14
import Props.C15
import Props.C17
import Props.C18
import Props.C19
import Props.C20
import Props.C13
import Props.DynBridge
import Props.CollideBridge
import Props.ThreadsBridge
import Props.StagesBridge
import Props.CellListsBridge
import Props.PairGuards
import Props.ForceSlots
import Props.C05Lambda
import Props.CreateDist
import Props.PairLists
import Props.IntLoops
import Props.PairSearchSites
import Props.C02Disp
