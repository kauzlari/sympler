import Sympler.Basic
import Sympler.Gen.FuncCompileGen
import Sympler.Gen.VerletGen
import Sympler.FuncCompile
import Sympler.FuncCompileLemmas
import Sympler.Stages
import Sympler.StagesLemmas
import Sympler.SmartList
import Sympler.SmartListLemmas
import Sympler.Verlet
import Sympler.VerletLemmas
import Sympler.Gen.KernelsFloat
import Sympler.KernelsDrv
import Sympler.Gen.HitTimeFloat
import Sympler.HitTimeDrv
import Sympler.Gen.SmartListGen
import Sympler.Gen.DataFormatGen
import Sympler.DataFormat
import Sympler.DataFormatDriver
import Sympler.DataFormatOps
import Sympler.DataFormatLemmas
import Sympler.DataFormatHeap
import Sympler.DataFormatInv
import Sympler.DataFormatStep
import Sympler.DataFormatReads
import Sympler.DataFormatErrors
import Sympler.DataFormatText
import Sympler.Geom
import Sympler.GeomLemmas
import Sympler.Gen.EntropyGen
import Sympler.Entropy
import Sympler.Gen.BondsGen
import Sympler.Bonds
import Sympler.Validate
import Sympler.ValidateLemmas
import Sympler.Cells
import Sympler.CellsLemmas
import Sympler.CellsPosLemmas
import Sympler.CellsSweepLemmas
import Sympler.Collide
import Sympler.CollideLemmas
import Sympler.CollideStepLemmas
import Sympler.Dyn
import Sympler.DynDriver
import Sympler.DynBasics
import Sympler.DynStep
import Sympler.DynLemmas
import Sympler.Expr
import Sympler.ExprBasics
import Sympler.ExprCLemmas
import Sympler.ExprEmitLemmas
import Sympler.ExprParseLemmas
import Sympler.ExprSurface
import Sympler.ExprSurfaceLemmas
import Sympler.ExprUsualLemmas
import Sympler.Grid
import Sympler.GridBuildLemmas
import Sympler.GridLemmas
import Sympler.PairSearch
import Sympler.Restart
import Sympler.RestartLemmas
import Sympler.Store
import Sympler.Threads
import Sympler.ThreadsLemmas
import Sympler.Gen.CellTablesGen
import Sympler.Gen.ExprTableGen
import Sympler.Gen.RestartGen
import Sympler.GridChecks
import Sympler.ExprDblLemmas
import Sympler.ExprHistory
import Sympler.Gen.ValidateGen
import Sympler.Gen.DynGen
import Sympler.Gen.CollideGen
import Sympler.Gen.ThreadsGen
import Sympler.Gen.StagesGen
import Sympler.Gen.CellListsGen
import Sympler.Gen.PairGuardsGen
import Sympler.GridLinksGeo
import Sympler.GridLinksInv
import Sympler.GridLinksSpec
import Sympler.GridLinksGeomOK
import Sympler.GridLinksLemmas
import Sympler.Gen.ForceSlotsGen
import Sympler.Gen.IntegLambdaGen
import Sympler.IntegLambda
import Sympler.Gen.CreateDistGen
import Sympler.Gen.PairListsGen
import Sympler.Gen.IntLoopsGen
import Sympler.Gen.DispGen
