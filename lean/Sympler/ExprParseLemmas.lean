import Sympler.ExprBasics

/-!
# C03 — lemmas about the expression parser `parseCore`

* `parseCore_ne_fuel`: the fuel `length + 1` is never exhausted (termination of `parseThis`);
* `parseCore_wf`: every tree the parser builds carries library functions of the generated table.

Core Lean only.
-/
namespace Sympler.Expr

open Sympler.Gen

/-! ## Positions found by `findWithoutParentheses` -/

theorem findGo_lt {name : List Char} : ∀ (pre suf : List Char) (lvl : Int) (p : Nat),
    findGo name pre suf lvl = some p → p < pre.length
  | [], _, _, _, h => by simp [findGo] at h
  | c :: pre, suf, lvl, p, h => by
    rw [findGo] at h
    split at h
    · injection h with h; subst h; simp
    · have := findGo_lt pre _ _ p h
      simp only [List.length_cons]; omega

theorem findWP_lt {e name : List Char} {p : Nat} (h : findWP e name = some p) : p < e.length := by
  have := findGo_lt _ _ _ _ h
  simpa using this

theorem selectFactory_some {fs : List Factory} {e : List Char} {f : Factory} {pos : Nat} :
    selectFactory fs e = some (f, pos) → f ∈ fs ∧ findWP e f.name = some pos := by
  fun_induction selectFactory fs e <;> intro h
  case case1 => cases h
  case case2 hp _ => cases h; exact ⟨List.mem_cons_self .., hp⟩
  all_goals
    rename_i ih
    exact ⟨List.mem_cons_of_mem _ (ih h).1, (ih h).2⟩

/-- side condition on the generated table: no name is empty or contains a bracket -/
theorem factories_names_noparen :
    ∀ f ∈ factories, f.name ≠ [] ∧ '(' ∉ f.name ∧ ')' ∉ f.name := by decide +kernel

/-! ## Termination: the fuel `length + 1` is never exhausted -/

theorem stripLoop_length (fuel : Nat) (e e' : List Char) :
    stripLoop fuel e = .ok e' → e'.length ≤ e.length := by
  fun_induction stripLoop fuel e <;> intro h
  case case4 hp ih =>
    have := ih (by rwa [if_pos hp] at h)
    simp only [List.length_dropLast, List.length_cons] at this ⊢
    omega
  case case5 hp => rw [if_neg hp] at h; cases h; exact Nat.le_refl _
  all_goals cases h <;> exact Nat.le_refl _

/-- the fuel of the bracket loop is never exhausted: every pass but the last removes two characters -/
theorem stripLoop_ne_fuel (fuel : Nat) (e : List Char) :
    e.length < fuel → stripLoop fuel e ≠ .error .fuel := by
  fun_induction stripLoop fuel e <;> intro h
  case case1 => omega
  case case4 hp ih =>
    rw [if_pos hp]
    refine ih ?_
    simp only [List.length_dropLast, List.length_cons] at h ⊢
    omega
  case case5 hp => rw [if_neg hp]; simp
  all_goals simp

theorem stripBrackets_length {e e' : List Char} (h : stripBrackets e = .ok e') :
    e'.length ≤ e.length := by
  unfold stripBrackets at h
  split at h
  · split at h
    · cases h
    · exact stripLoop_length _ _ _ h
  · cases h; exact Nat.le_refl _

theorem stripBrackets_ne_fuel (e : List Char) : stripBrackets e ≠ .error .fuel := by
  unfold stripBrackets
  split
  · split
    · simp
    · exact stripLoop_ne_fuel _ _ (Nat.lt_succ_self _)
  · simp

theorem valueFromString_ne_fuel (known : String → Bool) (e : List Char) :
    valueFromString known e ≠ .error .fuel := by
  unfold valueFromString
  dsimp only
  split
  · simp
  · split
    · simp
    · split <;> (try split) <;> simp

theorem bind_ne_fuel {α β : Type} {x : Except Err α} {f : α → Except Err β} (hx : x ≠ .error .fuel)
    (hf : ∀ a, x = .ok a → f a ≠ .error .fuel) : (x >>= f) ≠ .error .fuel := by
  cases x with
  | error e => simpa [bind, Except.bind] using hx
  | ok a => exact hf a rfl

theorem parseCore_ne_fuel (known : String → Bool) : ∀ (n : Nat) (cs : List Char),
    cs.length < n → parseCore known n cs ≠ .error .fuel
  | 0, cs, h => by omega
  | n+1, cs, h => by
    rw [parseCore]
    refine bind_ne_fuel (stripBrackets_ne_fuel cs) fun expr hs => ?_
    have hlen := stripBrackets_length hs
    -- every operand is shorter than `expr`: the selected name is not empty and lies inside `expr`
    have operand : ∀ (sub : List Char) {β : Type} (k : Tree → Except Err β), sub.length < expr.length →
        (∀ t, k t ≠ .error .fuel) → (parseCore known n sub >>= k) ≠ .error .fuel :=
      fun sub _ k hsub hk => bind_ne_fuel (parseCore_ne_fuel known n sub (by omega)) fun t _ => hk t
    unfold parseBody
    split
    · exact valueFromString_ne_fuel known expr
    next f pos hsel =>
      obtain ⟨hmem, hfind⟩ := selectFactory_some hsel
      have hpos := findWP_lt hfind
      have hname := List.length_pos_iff.mpr (factories_names_noparen f hmem).1
      dsimp only
      split
      · split
        · exact operand _ _ (by simp only [List.length_drop]; omega) (by simp)
        · split
          · simp
          · exact operand _ _ (by simp only [List.length_drop]; omega) fun b =>
              operand _ _ (by simp only [List.length_take]; omega) (by simp)
      · split
        · simp
        · exact operand _ _ (by simp only [List.length_drop]; omega) (by simp)

/-! ## The trees of the parser are well formed -/

/-- side condition on the generated table: the C names of the macro functions are identifiers other
than `rand` and do not start with `d` -/
theorem macroFuncs_cnames_ok : ∀ p ∈ ExprTable.macroFuncs, cnameOK p.2 = true := by decide +kernel

theorem ofName_wf {n : String} {f : Fn} (h : Fn.ofName n = some f) : f.wf = true := by
  cases f with
  | lib m c =>
    unfold Fn.ofName at h
    split at h
    next c' hc =>
      injection h with h
      injection h with _ h
      subst h
      obtain ⟨l₁, l₂, hl, _⟩ := List.lookup_eq_some_iff.mp hc
      exact macroFuncs_cnames_ok (n, c') (by rw [hl]; exact List.mem_append_right _ (List.mem_cons_self ..))
    next => split at h <;> cases h
  | _ => rfl

theorem valueFromString_wf {known : String → Bool} {e : List Char} {t : Tree}
    (h : valueFromString known e = .ok t) : t.wf = true := by
  unfold valueFromString at h
  dsimp only at h
  split at h
  · cases h; rfl
  · split at h
    · cases h
    · split at h
      · cases h; rfl
      · cases h
      · split at h
        · cases h; rfl
        · cases h

theorem parseCore_wf (known : String → Bool) : ∀ (n : Nat) (cs : List Char) (t : Tree),
    parseCore known n cs = .ok t → t.wf = true
  | 0, cs, t, h => by simp [parseCore] at h
  | n+1, cs, t, h => by
    rw [parseCore] at h
    obtain ⟨expr, _, h⟩ := bind_ok h
    unfold parseBody at h
    split at h
    · exact valueFromString_wf h
    next f pos hsel =>
      dsimp only at h
      split at h
      · split at h
        · obtain ⟨a, ha, h⟩ := bind_ok h
          cases h
          exact parseCore_wf known n _ a ha
        · split at h
          · cases h
          next op hop =>
            obtain ⟨b, hb, h⟩ := bind_ok h
            obtain ⟨a, ha, h⟩ := bind_ok h
            cases h
            simp only [Tree.wf, Bool.and_eq_true]
            exact ⟨parseCore_wf known n _ a ha, parseCore_wf known n _ b hb⟩
      · split at h
        · cases h
        next fn hfn =>
          obtain ⟨a, ha, h⟩ := bind_ok h
          cases h
          simp only [Tree.wf, Bool.and_eq_true]
          exact ⟨ofName_wf hfn, parseCore_wf known n _ a ha⟩

theorem parse_wf {syms : List String} {s : String} {t : Tree} (h : parse syms s = .ok t) :
    t.wf = true := parseCore_wf _ _ _ _ h

theorem parse_ne_fuel (syms : List String) (s : String) : parse syms s ≠ .error .fuel :=
  parseCore_ne_fuel _ _ _ (Nat.lt_succ_self _)

/-! ## Running the parser

`factories` takes the table names apart (`String.toList`), about a million kernel heartbeats in every
evaluation of `parse`.  The concrete witnesses are evaluated with `parseCoreW` at `factoriesL` instead. -/

def parseBodyW (fs : List Factory) (known : String → Bool) (rec : List Char → Except Err Tree)
    (expr : List Char) : Except Err Tree :=
  match selectFactory fs expr with
  | none => valueFromString known expr
  | some (f, pos) =>
    let name := String.ofList f.name
    if f.isBinary then
      if name = "-" && pos = 0 then do
        let a ← rec (expr.drop 1)
        .ok (.neg a)
      else
        match BinOp.ofName name with
        | none => .error .unknownOperator
        | some op => do
          let b ← rec (expr.drop (pos + f.name.length))
          let a ← rec (expr.take pos)
          .ok (.bin op a b)
    else
      match Fn.ofName name with
      | none => .error .unknownOperator
      | some fn => do
        let a ← rec (expr.drop f.name.length)
        .ok (.fn fn a)

def parseCoreW (fs : List Factory) (known : String → Bool) : Nat → List Char → Except Err Tree
  | 0, _ => .error .fuel
  | fuel+1, expression => do
    let expr ← stripBrackets expression
    parseBodyW fs known (parseCoreW fs known fuel) expr

/-- `factories` written out; a side condition on the generated table (`factories_eq` fails when it changes) -/
def factoriesL : List Factory :=
  [⟨['+'], true⟩, ⟨['-'], true⟩, ⟨['*'], true⟩, ⟨['/'], true⟩, ⟨[':'], true⟩, ⟨['°'], true⟩, ⟨['@'], true⟩,
   ⟨['^'], true⟩, ⟨['s', 'q', 'r', 't'], false⟩, ⟨['s', 'i', 'n'], false⟩, ⟨['c', 'o', 's'], false⟩,
   ⟨['t', 'a', 'n'], false⟩, ⟨['a', 's', 'i', 'n'], false⟩, ⟨['a', 'c', 'o', 's'], false⟩,
   ⟨['a', 't', 'a', 'n'], false⟩, ⟨['h', 's', 'i', 'n'], false⟩, ⟨['h', 'c', 'o', 's'], false⟩,
   ⟨['h', 't', 'a', 'n'], false⟩, ⟨['a', 'b', 's'], false⟩, ⟨['e', 'x', 'p'], false⟩,
   ⟨['r', 'o', 'u', 'n', 'd'], false⟩, ⟨['d', 'e', 't'], false⟩,
   ⟨['d', 'i', 'a', 'g', 'M', 'a', 't'], false⟩, ⟨['i', 'd', 'V', 'e', 'c'], false⟩,
   ⟨['i', 'd', 'M', 'a', 't'], false⟩, ⟨['Q'], false⟩, ⟨['s', 't', 'e', 'p'], false⟩,
   ⟨['s', 't', 'p', 'V', 'a', 'l'], false⟩, ⟨['T'], false⟩, ⟨['t', 'r', 'a', 'c', 'e'], false⟩,
   ⟨['u', 'n', 'i', 't', 'M', 'a', 't'], false⟩, ⟨['u', 'r', 'a', 'n'], false⟩,
   ⟨['u', 'V', 'e', 'c', 'X'], false⟩, ⟨['u', 'V', 'e', 'c', 'Y'], false⟩,
   ⟨['u', 'V', 'e', 'c', 'Z'], false⟩, ⟨['x', 'y', 'M', 'a', 't'], false⟩,
   ⟨['x', 'C', 'o', 'o', 'r', 'd'], false⟩, ⟨['y', 'C', 'o', 'o', 'r', 'd'], false⟩,
   ⟨['z', 'C', 'o', 'o', 'r', 'd'], false⟩]

theorem factories_eq : factories = factoriesL := by decide +kernel

theorem parseCore_eq (known : String → Bool) (n : Nat) :
    parseCore known n = parseCoreW factoriesL known n := by
  induction n with
  | zero => rfl
  | succ n ih =>
    funext e
    rw [parseCore, parseCoreW, ih, ← factories_eq]
    rfl

theorem parse_eq (syms : List String) (s : String) :
    parse syms s = parseCoreW factoriesL (fun n => syms.contains n) (s.toList.length + 1) s.toList :=
  congrFun (parseCore_eq _ _) _

end Sympler.Expr
