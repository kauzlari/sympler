import Sympler.DataFormatStep
/-!
# Reads: frames, and after `addAttribute`, copy, assignment, `clear`, a write (C14)

A read depends only on the record's format, the layout of the attribute, its slot and what the
slot resolves to (`read_transfer`); the frame and read-back theorems follow from that and from
what the operation returns.  Core Lean only.
-/
namespace Sympler.DataFormat

variable {al : Option Nat} {s s' : State} {d i : Nat}

local notation "Addr" => Nat

theorem read_ok_iff {x : Nat} {r : RVal} :
    s.read x i = .ok r ↔
    ∃ (dat : Data) (fid : Nat) (f : Format) (a : Attr) (b : Block) (v : Val),
      s.datas[x]? = some (some dat) ∧ dat.fmt = some fid ∧ s.fmts[fid]? = some f ∧
      f.byIndex[i]? = some a ∧ dat.block = some b ∧ b.vals[i]? = some v ∧ a.misaligned = false ∧
      resolve s.heap v = .ok (some r) := by
  constructor
  · intro h
    unfold State.read at h
    split at h
    · cases h
    · rename_i l hl
      obtain ⟨hd, hfid, hf, ha⟩ := attrAt_ok hl
      split at h
      · cases h
      · rename_i b v hslot
        obtain ⟨hb, hv, hm⟩ := slot_ok hslot
        refine ⟨l.dat, l.fid, l.fmt, l.attr, b, v, hd, hfid, hf, ha, hb, hv, hm, ?_⟩
        split at h
        · cases h
        · cases h
        · rename_i r' hr
          cases h; exact hr
  · rintro ⟨dat, fid, f, a, b, v, hd, hfid, hf, ha, hb, hv, hm, hr⟩
    unfold State.read State.attrAt
    rw [getData_ok.2 hd]
    simp only [hfid, getFmt_ok.2 hf, ha, AttrAt.slot, hb, hv, hm, Bool.false_eq_true, if_false, hr]

/-- a successful read of record `x` carries over to record `x'` of `s'` when that record has the
    same format, formats keep their layout, and slot `i` holds a value that resolves to the same -/
theorem read_transfer {x x' : Nat} {r : RVal} {dat dat' : Data} {b b' : Block}
    (hd : s.datas[x]? = some (some dat)) (hd' : s'.datas[x']? = some (some dat')) (hfmt : dat'.fmt = dat.fmt)
    (hfm : LayoutKept s.fmts s'.fmts) (hb : dat.block = some b) (hb' : dat'.block = some b')
    (hslot : ∀ v, b.vals[i]? = some v →
      ∃ v', b'.vals[i]? = some v' ∧ ∀ r, resolve s.heap v = .ok r → resolve s'.heap v' = .ok r)
    (hr : s.read x i = .ok r) : s'.read x' i = .ok r := by
  obtain ⟨dat0, fid, f, a, b0, v, h1, hfid, hf, ha, hb0, hv, hm, hres⟩ := read_ok_iff.1 hr
  rw [hd] at h1; cases h1
  rw [hb] at hb0; cases hb0
  obtain ⟨f', hf', hlay⟩ := hfm fid f hf
  obtain ⟨a', ha', hsame⟩ := hlay i a ha
  obtain ⟨v', hv', hres'⟩ := hslot v hv
  refine read_ok_iff.2 ⟨dat', fid, f', a', b', v', hd', hfmt.trans hfid, hf', ha', hb', hv', ?_, hres' _ hres⟩
  rw [← hm]; unfold Attr.misaligned
  rw [hsame.2.2.1, hsame.2.2.2.1]

theorem slot_kept {h h' : Heap} {vs vs' : List Val} (hv : ∀ v, vs[i]? = some v → vs'[i]? = some v)
    (hk : ∀ (adr : Nat) (c : Cell), vs[i]? = some (Val.sp (some adr)) → h[adr]? = some (some c) →
      h'[adr]? = some (some c))
    (v : Val) (hv0 : vs[i]? = some v) :
    ∃ v', vs'[i]? = some v' ∧ ∀ r, resolve h v = .ok r → resolve h' v' = .ok r :=
  ⟨v, hv v hv0, fun _ => resolve_frame fun adr c e => hk adr c (e ▸ hv0)⟩

theorem read_frame {t : Option Nat} (hs : Inv al s) (hf : Frame s s' t)
    {x : Nat} {v : RVal} (hx : some x ≠ t) (hr : s.read x i = .ok v) : s'.read x i = .ok v := by
  obtain ⟨dat, _, _, _, b, _, hd, _, _, _, hb, _⟩ := read_ok_iff.1 hr
  refine read_transfer hd (by rw [hf.datas x hx (lt_of_getElem?_some hd)]; exact hd) rfl hf.fmts hb hb
    (slot_kept (fun _ h => h) fun adr c hv hc => hf.heap adr c hc fun d hd' ho => ?_) hr
  exact hx (by rw [hd', hs.heap.sep x d adr (by rw [valsOf_of_block hd hb]; exact ⟨i, hv⟩) ho])

/-- reading the all-zero pattern at type `t` (containers: after `alloc()`, the empty vector) -/
def RVal.zero : DType → RVal
  | .INT => .int 0 | .DOUBLE => .dbl 0 | .INT_POINT => .ipt 0 0 0 | .POINT => .pt P3.zero
  | .TENSOR => .tens T9.zero | .STRING => .str []
  | .VECTOR_INT | .VECTOR_DOUBLE | .VECTOR_POINT | .VECTOR_TENSOR => .vec []

/-- the raw content of slot `i` of record `d` -/
def State.slotVal (s : State) (d i : Nat) : Option Val := (valsOf s.datas d)[i]?

theorem Format.size_zero_byIndex {f : Format} (hf : FormatOk al f) (h0 : f.size = 0) :
    f.byIndex = [] := by
  cases hl : f.byIndex with
  | nil => rfl
  | cons a as =>
    have := hf.size
    rw [h0, hl] at this
    have h1 : prefixSize al (a :: as) = csize al a.dtype + prefixSize al as := by simp [prefixSize]
    have := csize_pos al a.dtype
    omega

theorem copy_reads {e id : Nat} (hs : Inv al s)
    (h : copyData s e = .ok (s', id)) {r : RVal} (hr : s.read e i = .ok r) :
    s'.read id i = .ok r := by
  obtain ⟨src, hsrc, rfl, hcases⟩ := copyData_ok h
  obtain ⟨_, fid0, f0, a, _, _, h1, h2, h3, h4, _⟩ := read_ok_iff.1 hr
  rw [hsrc] at h1; cases h1
  rcases hcases with ⟨hn, _⟩ | ⟨fid, f, hfid, hf, h0, _⟩ | ⟨fid, f, b, vals, h', hfid, hf, _, hb, hfull, _, _, hdc, rfl⟩
  · rw [hn] at h2; cases h2
  · rw [hfid] at h2; cases h2
    rw [hf] at h3; cases h3
    rw [Format.size_zero_byIndex (hs.fmts _ _ hf) h0] at h4; cases h4
  · exact read_transfer hsrc (List.getElem?_concat_length ..) hfid.symm (.refl _) hb rfl
      ((deepCopy_props hs hsrc hfid hb hf hfull hdc).2 i) hr

theorem assign_reads {e : Nat} (hs : Inv al s)
    (h : assignData s d e = .ok s') {r : RVal} (hr : s.read e i = .ok r) :
    s'.read d i = .ok r := by
  obtain ⟨dst, src, hdst, hsrc, hcases⟩ := assignData_ok h
  have hd' : ∀ x, (s.datas.set d x)[d]? = some x := fun _ => List.getElem?_set_self (lt_of_getElem?_some hdst)
  obtain ⟨_, fid0, _, _, _, _, h1, h2, _⟩ := read_ok_iff.1 hr
  rw [hsrc] at h1; cases h1
  rcases hcases with ⟨hne, h1, hrel, hsub⟩ | ⟨_, hsub⟩
  · rcases hsub with ⟨hn, _⟩ | ⟨fid, f, b, vals, h', hfid, hf, _, hb, hfull, _, _, hdc, rfl⟩
    · rw [hn] at h2; cases h2
    · obtain ⟨hed, hs1, hsrc1⟩ := hs.assign_dropped hdst hsrc hne hrel
      refine read_transfer hsrc (hd' _) hfid.symm (.refl _) hb rfl (fun v hv => ?_) hr
      obtain ⟨v', hv', hres⟩ := (deepCopy_props hs1 hsrc1 hfid hb hf hfull hdc).2 i v hv
      refine ⟨v', hv', fun r hr => hres r (resolve_frame (fun adr c hva hc => ?_) hr)⟩
      -- the cell read through the source is not one of the destination's: it survives the release
      have hown : owns (valsOf s.datas e) adr := by rw [valsOf_of_block hsrc hb]; exact ⟨i, by rw [hv, hva]⟩
      exact (releaseIfFmt_spec hs hdst hrel).kept adr c hc fun ho => hed (hs.heap.sep e d adr hown ho)
  · rcases hsub with ⟨hn, _⟩ | ⟨fid, f, db, b, vals, h', hfid, hf, _, hb, _, hfull, _, _, hdc, rfl⟩
    · rw [hn] at h2; cases h2
    · exact read_transfer hsrc (hd' _) hfid.symm (.refl _) hb rfl
        ((deepCopy_props hs hsrc hfid hb hf hfull hdc).2 i) hr

theorem dadd_reads {name symbol : String} {t : DType} {pers : Bool}
    {a : Attr} (h : dataAddAttribute al s d name t pers symbol = .ok (s', a)) {r : RVal}
    (hr : s.read d i = .ok r) : s'.read d i = .ok r := by
  obtain ⟨dat, fid, f, f', hd, hfid, hf, hadd, hcases⟩ := dataAddAttribute_ok h
  have hd' : ∀ x, (s.datas.set d x)[d]? = some x := fun _ => List.getElem?_set_self (lt_of_getElem?_some hd)
  have hlay := LayoutKept.set hf (Format.layoutKept_addAttribute hadd)
  have happ : ∀ (b : Block) (x v : Val), b.vals[i]? = some v → (b.vals ++ [x])[i]? = some v :=
    fun b x v hv => by rw [List.getElem?_append_left (lt_of_getElem?_some hv)]; exact hv
  obtain ⟨_, _, _, _, b0, _, h1, _, _, _, hb0, _⟩ := read_ok_iff.1 hr
  rw [hd] at h1; cases h1
  rcases hcases with ⟨_, rfl⟩ | ⟨_, b, hb, _, ⟨_, _, rfl⟩ | ⟨_, rfl⟩⟩
  · exact read_transfer hd hd rfl hlay hb0 hb0 (slot_kept (fun _ h => h) fun _ _ _ hc => hc) hr
  · exact read_transfer hd (hd' _) hfid.symm hlay hb rfl
      (slot_kept (happ b _) fun _ _ _ hc => heap_append_keep _ hc) hr
  · exact read_transfer hd (hd' _) hfid.symm hlay hb rfl (slot_kept (happ b _) fun _ _ _ hc => hc) hr

theorem resolve_zeroVal (h : Heap) {t : DType} (ht : t.isContainer = false) :
    resolve h (zeroVal t) = .ok (some (RVal.zero t)) := by
  cases t <;> first | rfl | (exact absurd ht (by decide))

theorem dadd_new_reads_zero {name symbol : String} {t : DType}
    {pers : Bool} {a : Attr} (hs : Inv al s)
    (h : dataAddAttribute al s d name t pers symbol = .ok (s', a))
    (hnew : ∀ (dat : Data) (fid : Nat) (f : Format), s.datas[d]? = some (some dat) → dat.fmt = some fid →
      s.fmts[fid]? = some f → f.find name = none)
    (hm : a.misaligned = false) : s'.read d a.index = .ok (RVal.zero t) := by
  obtain ⟨dat, fid, f, f', hd, hfid, hf, hadd, hcases⟩ := dataAddAttribute_ok h
  have hfind := hnew dat fid f hd hfid hf
  obtain ⟨hattr, rfl⟩ : a = ⟨name, f.byIndex.length, f.size, t, pers, if symbol == "" then name else symbol⟩ ∧
      f' = ⟨f.byIndex ++ [a], f.byName ++ [a], f.size + csize al t⟩ := by
    rcases Format.addAttribute_ok_cases hadd with ⟨_, h1, h2⟩ | ⟨hfind', _, _⟩
    · exact ⟨h1, h2⟩
    · rw [hfind] at hfind'; cases hfind'
  have hidx : a.index = f.byIndex.length := by rw [hattr]
  -- the new attribute is the last one of the new format, its value the last one of the new block
  have key : ∀ (b : Block) (v : Val) (h' : Heap), dat.block = some b → ¬ b.size < f.size →
      resolve h' v = .ok (some (RVal.zero t)) →
      State.read ⟨s.fmts.set fid ⟨f.byIndex ++ [a], f.byName ++ [a], f.size + csize al t⟩,
        s.datas.set d (some ⟨some fid, some ⟨f.size + csize al t, b.vals ++ [v]⟩⟩), h', s.leaked⟩ d a.index
        = .ok (RVal.zero t) := by
    intro b v h' hb hfull hres
    have hlen := (hs.block hd hfid hf hb).1.full_of_not_lt (hs.fmts fid f hf) hfull
    rw [hidx]
    exact read_ok_iff.2 ⟨_, fid, _, a, _, v, List.getElem?_set_self (lt_of_getElem?_some hd), rfl,
      List.getElem?_set_self (lt_of_getElem?_some hf), List.getElem?_concat_length .., rfl,
      hlen ▸ List.getElem?_concat_length .., hm, hres⟩
  rcases hcases with ⟨he, _⟩ | ⟨_, b, hb, hfull, ⟨hc, _, rfl⟩ | ⟨hc, rfl⟩⟩
  · have := csize_pos al t
    simp only at he; omega
  · refine key b _ _ hb hfull ?_
    have hcell : (s.heap ++ [some (⟨[], 1⟩ : Cell)])[s.heap.length]? = some (some ⟨[], 1⟩) := by simp
    simp only [resolve, Heap.get_eq_some.2 hcell]
    cases t <;> first | rfl | (exact absurd hc (by decide))
  · exact key b _ _ hb hfull (resolve_zeroVal _ hc)

/-- `Data::clear()` / `clearAll()`: exactly the touched slots become the zero pattern; the cells of
    the untouched smart pointers are as before -/
theorem clear_exact {al : Option Nat} {s s' : State} {all : Bool} {d : Nat} (hs : Inv al s)
    (h : clearData all s d = .ok s') :
    ∃ (dat : Data) (fid : Nat) (f : Format), s.datas[d]? = some (some dat) ∧ dat.fmt = some fid ∧
      s.fmts[fid]? = some f ∧ s'.fmts = s.fmts ∧
      (∀ (i : Nat) (v : Val) (a : Attr), s.slotVal d i = some v → f.byIndex[i]? = some a →
        s'.slotVal d i = some (if all || !a.persistent then zeroVal a.dtype else v)) ∧
      (∀ i, s.slotVal d i = none → s'.slotVal d i = none) ∧
      (∀ (i : Nat) (adr : Addr), s'.slotVal d i = some (Val.sp (some adr)) → s'.heap[adr]? = s.heap[adr]?) := by
  obtain ⟨dat, fid, f, hd, hfid, hf, ⟨hnb, rfl⟩ | ⟨b, vs, h', hb, hc, rfl⟩⟩ := clearData_ok h
  · refine ⟨dat, fid, f, hd, hfid, hf, rfl, fun i v a hi => ?_, fun _ hi => hi, fun _ _ _ => rfl⟩
    unfold State.slotVal at hi
    rw [valsOf_eq hd, hnb] at hi; cases hi
  · obtain ⟨_, hlen, hchar, hkeep, _⟩ := hs.clearInto hd hfid hb hf hc
    have hv : ∀ i, s.slotVal d i = b.vals[i]? := fun i => by unfold State.slotVal; rw [valsOf_of_block hd hb]
    have hv' : ∀ i, State.slotVal ({ s with heap := h' }.setData d
        (some { dat with block := some { b with vals := vs } })) d i = vs[i]? := fun i => by
      unfold State.slotVal
      exact congrArg (·[i]?) (valsOf_set_self (lt_of_getElem?_some hd))
    refine ⟨dat, fid, f, hd, hfid, hf, rfl, fun i v a hi ha => ?_, fun i hi => ?_, fun i adr hi => ?_⟩
    · rw [hv'] ; rw [hv] at hi; exact hchar i v a hi ha
    · rw [hv']; rw [hv] at hi
      rw [List.getElem?_eq_none_iff] at hi ⊢
      omega
    · rw [hv'] at hi
      exact hkeep adr ⟨i, hi⟩

theorem clear_reads_kept {all : Bool} {fid : Nat} {dat : Data} {f : Format}
    {a : Attr} {r : RVal} (hs : Inv al s) (h : clearData all s d = .ok s')
    (hd : s.datas[d]? = some (some dat)) (hfid : dat.fmt = some fid) (hf : s.fmts[fid]? = some f)
    (ha : f.byIndex[i]? = some a) (hun : (all || !a.persistent) = false)
    (hr : s.read d i = .ok r) : s'.read d i = .ok r := by
  obtain ⟨dat', fid', f', hd', hfid', hf', ⟨_, rfl⟩ | ⟨b, vs, h', hb, hc, rfl⟩⟩ := clearData_ok h
  · exact hr
  · rw [hd] at hd'; cases hd'
    rw [hfid] at hfid'; cases hfid'
    rw [hf] at hf'; cases hf'
    obtain ⟨_, _, hchar, hkept, _⟩ := hs.clearInto hd hfid hb hf hc
    have hvi : ∀ v, b.vals[i]? = some v → vs[i]? = some v := fun v hv => by
      have := hchar i v a hv ha
      rwa [hun] at this
    exact read_transfer hd (List.getElem?_set_self (lt_of_getElem?_some hd)) rfl (.refl _) hb rfl
      (slot_kept hvi fun adr c hv hcell => (hkept adr ⟨i, hvi _ hv⟩).trans hcell) hr

/-- what a stored value of a non-container type reads as -/
def Val.toR : Val → Option RVal
  | .int n => some (.int n) | .dbl x => some (.dbl x) | .ipt a b c => some (.ipt a b c)
  | .pt p => some (.pt p) | .tens t => some (.tens t)
  | .str none => some (.str []) | .str (some s) => some (.str s)
  | .sp _ => none

theorem resolve_of_toR (h : Heap) {v : Val} {r : RVal} (hv : v.toR = some r) : resolve h v = .ok (some r) := by
  cases v with
  | sp p => cases hv
  | str x => cases x <;> (cases hv; rfl)
  | _ => cases hv; rfl

theorem read_after_write {l : AttrAt} {v : Val} {r : RVal}
    (hl : s.attrAt d i = .ok l) (hw : writeVal s l d i v = .ok s') (hv : v.toR = some r) :
    s'.read d i = .ok r := by
  obtain ⟨hd, hfid, hf, ha⟩ := attrAt_ok hl
  obtain ⟨b, old, hslot, rfl⟩ := writeVal_ok hw
  obtain ⟨_, hval, hm⟩ := slot_ok hslot
  exact read_ok_iff.2 ⟨_, l.fid, l.fmt, l.attr, _, v, List.getElem?_set_self (lt_of_getElem?_some hd), hfid, hf, ha,
    rfl, List.getElem?_set_self (lt_of_getElem?_some hval), hm, resolve_of_toR _ hv⟩

end Sympler.DataFormat
