import Sympler.DynStep

/-!
Whole runs of the `Dyn` model (core Lean only): conservation of momentum, closed forms for constant forces,
independence of the predictor parameter `lambda`, time reversal; at the end the concrete scenario of the
non-vacuity examples.
-/
namespace Sympler.Dyn

section
variable (cfg : Config)

/-! ### Newton's third law, momentum -/

/-- `FPairVels` with its default `symmetry = -1` and equal particle factors (default: both `idVec(1)`) -/
def PairMod.reciprocal (m : PairMod) : Prop := m.sym = -1 ∧ m.fi = m.fj

theorem second_eq_neg_first (m : PairMod) (h : m.reciprocal) (env : Env) : m.second env = - m.first env := by
  rw [PairMod.second, PairMod.first, h.1, h.2, Vec3.neg_one_smul]

theorem sum_pairForceOn_zero (m : PairMod) (S : State) (h : m.reciprocal) :
    vsum ((List.range S.n).map (fun i => pairForceOn cfg m S i)) = 0 := by
  unfold pairForceOn
  rw [vsum_map_add, vsum_comm (List.range S.n) (List.range S.n) (fun i a =>
      if pairActive cfg m S a i then m.second (mkEnv cfg.box (S.ps a) (S.ps i)) else 0), ← vsum_map_add]
  refine vsum_map_zero _ _ (fun a _ => ?_)
  rw [← vsum_map_add]
  refine vsum_map_zero _ _ (fun b _ => ?_)
  split
  · rw [second_eq_neg_first m h, Vec3.add_neg_self]
  · exact Vec3.add_zero _

theorem sum_totalForce_zero (S : State)
    (hrec : ∀ m ∈ cfg.pairForces, m.target = .force .vel → m.reciprocal)
    (hpart : ∀ m ∈ cfg.partForces, m.target ≠ .force .vel) :
    vsum ((List.range S.n).map (fun i => totalForce cfg S i .vel)) = 0 := by
  unfold totalForce
  rw [vsum_map_add, vsum_comm, vsum_map_zero _ _ (fun m hm => ?_), Vec3.zero_add]
  · exact vsum_map_zero _ _ (fun i _ => vsum_map_zero _ _ (fun m hm => by simp [hpart m hm]))
  · split
    · rename_i ht; exact sum_pairForceOn_zero cfg m S (hrec m hm ht)
    · exact vsum_map_zero _ _ (fun _ _ => rfl)

/-- mass of the (unique) velocity-Verlet integrator of a colour -/
def massOf (cfg : Config) (c : Nat) : Rat :=
  match vvOf cfg c with
  | [(_, m)] => m
  | _ => 0

/-- total linear momentum `Σ m v` -/
def momentum (cfg : Config) (st : State) : Vec3 :=
  vsum ((List.range st.n).map (fun i => massOf cfg (st.ps i).colour • (st.ps i).v))

def forceSum (st : State) : Vec3 :=
  vsum ((List.range st.n).map (fun i => (st.ps i).tag (.force .vel st.forceIdx)))

/-- setting of C04: only reciprocal pair forces drive the velocities, every particle is free and
its colour is integrated by exactly one velocity Verlet with non-zero mass -/
structure Closed (cfg : Config) (st : State) : Prop where
  wf : cfg.wf = true
  free : ∀ i, i < st.n → (st.ps i).frozen = false
  vv : ∀ i, i < st.n → ∃ l m, vvOf cfg (st.ps i).colour = [(l, m)] ∧ m ≠ 0
  recip : ∀ m ∈ cfg.pairForces, m.target = .force .vel → m.reciprocal
  nopart : ∀ m ∈ cfg.partForces, m.target ≠ .force .vel

theorem Closed.of_pres {cfg : Config} {st st' : State} (h : Closed cfg st) (hp : Pres st st') : Closed cfg st' :=
  ⟨h.wf, fun i hi => hp.free (h.free i (hp.n ▸ hi)), fun i hi => by rw [hp.colour_eq]; exact h.vv i (hp.n ▸ hi),
   h.recip, h.nopart⟩

theorem step_forceSum (st : State) (h : Closed cfg st) : forceSum (step cfg st) = 0 := by
  rw [forceSum, (step_pres cfg st).n, vsum_range_congr _ _ _
    (fun i hi => step_force cfg h.wf st i hi (h.free i hi) .vel (Or.inl rfl)), ← (preState_pres cfg st).n]
  exact sum_totalForce_zero cfg (preState cfg st) h.recip h.nopart

theorem init_forceSum (st : State) (h : Closed cfg st) : forceSum (init cfg st) = 0 := by
  rw [forceSum, (init_pres cfg st).n, (init_agree cfg h.wf st).fi, vsum_range_congr _ _ _
    (fun i hi => init_force cfg h.wf st i hi (h.free i hi) .vel (Or.inl rfl)), ← (initState_pres cfg st).n]
  exact sum_totalForce_zero cfg (initState cfg st) h.recip h.nopart

theorem step_momentum (st : State) (h : Closed cfg st) (h0 : forceSum st = 0) :
    momentum cfg (step cfg st) = momentum cfg st := by
  have hz := step_forceSum cfg st h
  rw [forceSum, (step_pres cfg st).n, step_forceIdx] at hz
  have hterm : ∀ i, i < st.n →
      massOf cfg ((step cfg st).ps i).colour • ((step cfg st).ps i).v
        = massOf cfg (st.ps i).colour • (st.ps i).v
          + ((cfg.dt / 2) • (st.ps i).tag (.force .vel st.forceIdx)
             + (cfg.dt / 2) • ((step cfg st).ps i).tag (.force .vel (!st.forceIdx))) := by
    intro i hi
    obtain ⟨l, m, hvv, hm⟩ := h.vv i hi
    have : massOf cfg (st.ps i).colour = m := by simp [massOf, hvv]
    rw [(step_pres cfg st).colour_eq, (step_vv cfg h.wf st i hi (h.free i hi) l m hvv).2, this, Vec3.smul_add,
      Vec3.smul_smul, Vec3.smul_smul, Vec3.smul_add, show m * (cfg.dt / 2) * (1 / m) = cfg.dt / 2 by grind]
  rw [momentum, (step_pres cfg st).n, vsum_range_congr _ _ _ hterm, vsum_map_add, vsum_map_add, vsum_map_smul,
    vsum_map_smul, hz, show vsum _ = 0 from h0, Vec3.smul_zero, Vec3.add_zero, Vec3.add_zero]; rfl

theorem init_momentum (st : State) (hwf : cfg.wf = true) : momentum cfg (init cfg st) = momentum cfg st := by
  rw [momentum, (init_pres cfg st).n]
  exact vsum_range_congr _ _ _ (fun i _ => by rw [((init_agree cfg hwf st).body i).colour, ((init_agree cfg hwf st).body i).v])

/-- C04: total momentum is the same after `init` and after every step -/
theorem run_momentum (st0 : State) (h : Closed cfg st0) (n : Nat) :
    momentum cfg (run cfg n (init cfg st0)) = momentum cfg st0 ∧ forceSum (run cfg n (init cfg st0)) = 0 := by
  induction n with
  | zero => exact ⟨init_momentum cfg st0 h.wf, init_forceSum cfg st0 h⟩
  | succ n ih =>
    have hc : Closed cfg (run cfg n (init cfg st0)) := h.of_pres (run_init_pres cfg n st0)
    exact ⟨(step_momentum cfg _ hc ih.2).trans ih.1, step_forceSum cfg _ hc⟩

/-! ### closed forms for constant forces -/

theorem init_keeps_sym (hwf : cfg.wf = true) (st : State) (i : Nat) (name : String)
    (hnc : NotComputed cfg name) (hpers : st.pers (st.ps i).colour (.sym name) = true) :
    ((init cfg st).ps i).tag (.sym name) = (st.ps i).tag (.sym name) := by
  have hA := initInput_agree cfg st
  rw [init_eq, (forces_agree cfg hwf _ _).tag i _ not_isForceKey_sym, initState, runSymbols_keeps cfg name hnc,
    clearParticleData_tag, (hA.body i).colour, hA.pers, hpers, hA.tag i _ (fun ⟨_, _, h⟩ => nomatch h)]
  simp only [Bool.not_true, Bool.and_false, Bool.false_eq_true, if_false, ite_self]

theorem run_pers_sym (hwf : cfg.wf = true) (st : State) (c : Nat) (n : String) (k : Nat) :
    (run cfg k (init cfg st)).pers c (.sym n) = st.pers c (.sym n) := by
  induction k with
  | zero => rw [run, (init_agree cfg hwf _).pers]
  | succ k ih => rw [run, step_pers_sym cfg hwf, ih]

/-- C05: the Euler integrators of user-defined quantities reproduce a constant rate exactly -/
theorem run_euler_const (hwf : cfg.wf = true) (st0 : State) (i : Nat) (hi : i < st0.n)
    (hf : (st0.ps i).frozen = false) (name : String) (hnc : NotComputed cfg name)
    (hpers : st0.pers (st0.ps i).colour (.sym name) = true)
    (hone : cfg.integrators.count (.euler (st0.ps i).colour name) = 1)
    (R : Vec3) (hconst : ∀ S : State, (S.ps i).colour = (st0.ps i).colour → totalForce cfg S i (.user name) = R)
    (n : Nat) :
    ((run cfg n (init cfg st0)).ps i).tag (.sym name)
      = (st0.ps i).tag (.sym name) + ((n : Nat) : Rat) • (cfg.dt • R) ∧
    ((run cfg n (init cfg st0)).ps i).tag (.force (.user name) (run cfg n (init cfg st0)).forceIdx) = R := by
  have hmem : Integrator.euler (st0.ps i).colour name ∈ cfg.integrators :=
    List.count_pos_iff.mp (by rw [hone]; exact Nat.one_pos)
  induction n with
  | zero =>
    rw [run, init_keeps_sym cfg hwf st0 i name hnc hpers, (init_agree cfg hwf _).fi,
      init_force cfg hwf st0 i hi hf _ (Or.inr ⟨name, rfl, hmem⟩)]
    exact ⟨by simp, hconst _ ((initState_pres cfg st0).colour_eq i)⟩
  | succ n ih =>
    have hp := run_init_pres cfg n st0
    have hcol := hp.colour_eq i
    constructor
    · rw [run, step_euler cfg hwf _ i (hp.free hf) name hnc (by rw [hcol, run_pers_sym cfg hwf]; exact hpers),
        hcol, hone, ih.1, ih.2, Vec3.add_assoc, ← Vec3.add_smul, Rat.natCast_add]
    · rw [run, step_force cfg hwf _ i (hp.lt hi) (hp.free hf) _ (Or.inr ⟨name, rfl, by rw [hcol]; exact hmem⟩)]
      exact hconst _ (((preState_pres cfg _).colour_eq i).trans hcol)

/-! ### positions modulo the periodic box -/

/-- `a` and `c` differ by a lattice vector of the periodic directions -/
def LatEq (b : Box) (a c : Vec3) : Prop :=
  ∃ kx ky kz : Int, (b.perX = false → kx = 0) ∧ (b.perY = false → ky = 0) ∧ (b.perZ = false → kz = 0) ∧
    a = c + ⟨kx * b.len.x, ky * b.len.y, kz * b.len.z⟩

theorem LatEq.refl (b : Box) (a : Vec3) : LatEq b a a :=
  ⟨0, 0, 0, fun _ => rfl, fun _ => rfl, fun _ => rfl, by apply Vec3.ext' <;> simp [Rat.add_zero]⟩

theorem LatEq.trans {b : Box} {a c d : Vec3} (h1 : LatEq b a c) (h2 : LatEq b c d) : LatEq b a d := by
  obtain ⟨kx, ky, kz, hx, hy, hz, e1⟩ := h1
  obtain ⟨jx, jy, jz, gx, gy, gz, e2⟩ := h2
  refine ⟨kx + jx, ky + jy, kz + jz, fun h => by rw [hx h, gx h]; rfl, fun h => by rw [hy h, gy h]; rfl,
    fun h => by rw [hz h, gz h]; rfl, ?_⟩
  rw [e1, e2, Vec3.add_assoc]
  congr 1
  apply Vec3.ext' <;> simp [Rat.intCast_add, Rat.add_mul, Rat.add_comm]

theorem LatEq.add_right {b : Box} {a c : Vec3} (h : LatEq b a c) (d : Vec3) : LatEq b (a + d) (c + d) := by
  obtain ⟨kx, ky, kz, hx, hy, hz, e⟩ := h
  exact ⟨kx, ky, kz, hx, hy, hz, by rw [e, Vec3.add_assoc, Vec3.add_assoc, Vec3.add_comm d]⟩

theorem wrap1_eq (per : Bool) (L x : Rat) : ∃ k : Int, (per = false → k = 0) ∧ wrap1 per L x = x + k * L := by
  unfold wrap1
  cases per with
  | false => exact ⟨0, fun _ => rfl, by simp [Rat.add_zero]⟩
  | true =>
    simp only [if_true]
    split
    · exact ⟨1, (fun h => by cases h), by simp⟩
    · split
      · exact ⟨-1, (fun h => by cases h), by simp [Rat.sub_eq_add_neg, Rat.neg_mul]⟩
      · exact ⟨0, (fun h => by cases h), by simp [Rat.add_zero]⟩

theorem wrap_latEq (b : Box) (r : Vec3) : LatEq b (wrap b r) r := by
  obtain ⟨kx, hx, ex⟩ := wrap1_eq b.perX b.len.x r.x
  obtain ⟨ky, hy, ey⟩ := wrap1_eq b.perY b.len.y r.y
  obtain ⟨kz, hz, ez⟩ := wrap1_eq b.perZ b.len.z r.z
  exact ⟨kx, ky, kz, hx, hy, hz, Vec3.ext' ex ey ez⟩

/-- one more velocity-Verlet step under constant acceleration `A` (component by component, in `Rat`) -/
theorem const_accel_step (r0 v0 A : Vec3) (t dt : Rat) :
    v0 + t • A + (dt / 2) • (A + A) = v0 + (t + dt) • A ∧
    r0 + t • v0 + (t * t / 2) • A + dt • (v0 + t • A + ((1 / 2 : Rat) * dt) • A)
      = r0 + (t + dt) • v0 + ((t + dt) * (t + dt) / 2) • A := by
  have hv : ∀ v a : Rat, v + t * a + dt / 2 * (a + a) = v + (t + dt) * a := by intros; grind
  have hr : ∀ r v a : Rat, r + t * v + t * t / 2 * a + dt * (v + t * a + 1 / 2 * dt * a)
      = r + (t + dt) * v + (t + dt) * (t + dt) / 2 * a := by intros; grind
  exact ⟨Vec3.ext' (hv ..) (hv ..) (hv ..), Vec3.ext' (hr ..) (hr ..) (hr ..)⟩

/-- C05: velocity Verlet reproduces constant-acceleration motion exactly (positions modulo the periodic box) -/
theorem run_vv_const (hwf : cfg.wf = true) (st0 : State) (i : Nat) (hi : i < st0.n)
    (hf : (st0.ps i).frozen = false) (l m : Rat) (hvv : vvOf cfg (st0.ps i).colour = [(l, m)])
    (F : Vec3) (hconst : ∀ S : State, (S.ps i).colour = (st0.ps i).colour → totalForce cfg S i .vel = F)
    (n : Nat) :
    ((run cfg n (init cfg st0)).ps i).v = (st0.ps i).v + (((n : Nat) : Rat) * cfg.dt) • ((1 / m) • F) ∧
    LatEq cfg.box ((run cfg n (init cfg st0)).ps i).r
      ((st0.ps i).r + (((n : Nat) : Rat) * cfg.dt) • (st0.ps i).v
        + ((((n : Nat) : Rat) * cfg.dt) * (((n : Nat) : Rat) * cfg.dt) / 2) • ((1 / m) • F)) ∧
    ((run cfg n (init cfg st0)).ps i).tag (.force .vel (run cfg n (init cfg st0)).forceIdx) = F := by
  induction n with
  | zero =>
    have hb := (init_agree cfg hwf st0).body i
    rw [run, hb.v, hb.r, (init_agree cfg hwf _).fi, init_force cfg hwf st0 i hi hf _ (Or.inl rfl)]
    have h0 : ((0 : Nat) : Rat) * cfg.dt = 0 := by simp
    rw [h0, Rat.zero_mul, show (0 : Rat) / 2 = 0 by rw [Rat.div_def, Rat.zero_mul], Vec3.zero_smul, Vec3.zero_smul,
      Vec3.add_zero, Vec3.add_zero, Vec3.add_zero]
    exact ⟨rfl, LatEq.refl _ _, hconst _ ((initState_pres cfg st0).colour_eq i)⟩
  | succ n ih =>
    have hp := run_init_pres cfg n st0
    have hcol := hp.colour_eq i
    obtain ⟨ihv, ihr, ihf⟩ := ih
    have hs := step_vv cfg hwf _ i (hp.lt hi) (hp.free hf) l m (by rw [hcol]; exact hvv)
    have hnew := step_force cfg hwf _ i (hp.lt hi) (hp.free hf) .vel (Or.inl rfl)
    rw [hconst _ (((preState_pres cfg _).colour_eq i).trans hcol)] at hnew
    have hA := const_accel_step (st0.ps i).r (st0.ps i).v ((1 / m) • F) (n * cfg.dt) cfg.dt
    have hcast : ((n + 1 : Nat) : Rat) * cfg.dt = n * cfg.dt + cfg.dt := by rw [Rat.natCast_add, Rat.add_mul]; simp
    rw [run, hcast]
    rw [step_forceIdx] at hnew
    refine ⟨?_, ?_, by rw [step_forceIdx]; exact hnew⟩
    · rw [hs.2, hnew, ihf, ihv, Vec3.smul_add, hA.1]
    · rw [hs.1, ihf, ihv, ← hA.2]
      exact (wrap_latEq cfg.box _).trans (ihr.add_right _)

/-! ### two states that differ only in what no expression reads -/

structure EqOn (K : Key → Prop) (s s' : State) : Prop where
  n : s.n = s'.n
  ps : ∀ i, SameView False K (s.ps i) (s'.ps i)

structure NoVel (cfg : Config) : Prop where
  caches : ∀ c ∈ cfg.caches, c.expr.usesVel = false
  sums : ∀ m ∈ cfg.sums, m.usesVel = false
  pairForces : ∀ m ∈ cfg.pairForces, m.usesVel = false
  partForces : ∀ c ∈ cfg.partForces, c.expr.usesVel = false

section
variable {K : Key → Prop} (hK : ∀ n, K (.sym n))
include hK

omit hK in
theorem EqOn.mapFree {s s' : State} (h : EqOn K s s') (f g : Particle → Particle)
    (hfg : ∀ p p', SameView False K p p' → SameView False K (f p) (g p')) : EqOn K (s.mapFree f) (s'.mapFree g) :=
  ⟨h.n, fun i => by
    rw [mapFree_ps, mapFree_ps, (h.ps i).frozen]; split
    · exact h.ps i
    · exact hfg _ _ (h.ps i)⟩

theorem pairOp_eqOn (k : Bool) (m : PairMod) (hm : m.usesVel = false) (a b : Nat)
    {s s' : State} (h : EqOn K s s') : EqOn K (pairOp cfg k m a b s) (pairOp cfg k m a b s') :=
  ⟨(pairOp_rest ..).1.trans (h.n.trans (pairOp_rest ..).1.symm), fun i => by
    rw [pairOp_ps, pairOp_ps, pairDelta_congr cfg k m (ne_true_of_eq_false hm)
      (fun n _ => hK n) (h.ps a) (h.ps b)]
    exact (h.ps i).addTag _ _⟩

theorem pairPhase_eqOn (k : Bool) (ms : List PairMod) (hms : ∀ m ∈ ms, m.usesVel = false)
    {s s' : State} (h : EqOn K s s') : EqOn K (pairPhase cfg k ms s) (pairPhase cfg k ms s') := by
  unfold pairPhase
  rw [h.n]
  exact foldl_rel2 (EqOn K) _ _ _ (fun s s' ab _ hr =>
    foldl_rel2 (EqOn K) _ _ _ (fun s s' m hm hr => pairOp_eqOn cfg hK k m (hms m hm) ab.1 ab.2 hr) s s' hr) s s' h

theorem partPhase_eqOn (k : Bool) (ms : List PartMod) (hms : ∀ m ∈ ms, m.expr.usesVel = false)
    {s s' : State} (h : EqOn K s s') : EqOn K (partPhase k ms s) (partPhase k ms s') :=
  h.mapFree _ _ (fun p p' hp => foldl_rel2 (SameView False K) _ _ _ (fun q q' m hm hq => by
    rw [partOp, partOp, hq.colour, hq.eval_envP m.expr (ne_true_of_eq_false (hms m hm))
      (fun n _ => hK n)]
    by_cases hc : q'.colour = m.colour
    · rw [if_pos hc, if_pos hc]
      cases m.assign
      · exact hq.addTag _ _
      · exact hq.setTag _ _
    · rw [if_neg hc, if_neg hc]; exact hq) p p' hp)

theorem runSymbols_eqOn (hnv : NoVel cfg) {s s' : State} (h : EqOn K s s') :
    EqOn K (runSymbols cfg s) (runSymbols cfg s') :=
  foldl_rel2 (EqOn K) (fun st t => runStage cfg t st) (fun st t => runStage cfg t st) _ (fun _ _ _ _ hr =>
    pairPhase_eqOn cfg hK false _ (fun m hm => hnv.sums m (List.mem_filter.mp hm).1)
      (partPhase_eqOn hK false _ (fun m hm => hnv.caches m (List.mem_filter.mp hm).1) hr)) s s' h

theorem forces_eqOn (hnv : NoVel cfg) (k : Bool) {s s' : State} (h : EqOn K s s') :
    EqOn K (forces cfg k s) (forces cfg k s') :=
  partPhase_eqOn hK k _ hnv.partForces (pairPhase_eqOn cfg hK k _ hnv.pairForces h)

end

/-! ### independence of the velocities (expressions that do not read `[v]`) -/

structure EqV (s s' : State) : Prop where
  n : s.n = s'.n
  fi : s.forceIdx = s'.forceIdx
  pers : s.pers = s'.pers
  ps : ∀ i, PEqV (s.ps i) (s'.ps i)

theorem EqV.refl (s : State) : EqV s s := ⟨rfl, rfl, rfl, fun _ => PEqV.refl _⟩

theorem EqV.eqOn {s s' : State} (h : EqV s s') : EqOn (fun _ => True) s s' :=
  ⟨h.n, fun i => have ⟨a, b, c, d, e⟩ := h.ps i; ⟨a, b, c, d, False.elim, fun k _ => congrFun e k⟩⟩

theorem EqV.of_eqOn {s s' t t' : State} (h : EqV s s') (ht : EqOn (fun _ => True) t t')
    (hfi : t.forceIdx = s.forceIdx ∧ t'.forceIdx = s'.forceIdx) (hp : t.pers = s.pers ∧ t'.pers = s'.pers) : EqV t t' :=
  ⟨ht.n, hfi.1.trans (h.fi.trans hfi.2.symm), hp.1.trans (h.pers.trans hp.2.symm),
   fun i => have h := ht.ps i; ⟨h.colour, h.slot, h.frozen, h.r, funext fun k => h.tag k trivial⟩⟩

theorem unprotect_eqV (k : Bool) (ig : Integrator) {s s' : State} (h : EqV s s') :
    EqV (unprotect k s ig) (unprotect k s' ig) := by
  cases ig with
  | vv c l m => exact h
  | euler c name =>
    unfold unprotect; dsimp only
    rw [hasFree_congr h.n (fun i => ⟨(h.ps i).1, (h.ps i).2.2.1⟩) c]
    by_cases hf : hasFree s' c = true
    · rw [if_pos hf, if_pos hf]; exact ⟨h.n, h.fi, by simp only [h.pers], h.ps⟩
    · rw [if_neg hf, if_neg hf]; exact h

theorem preForce_eqV (hwf : cfg.wf = true) (hnv : NoVel cfg) (k : Bool) {s s' : State} (h : EqV s s') :
    EqV (preForce cfg k s) (preForce cfg k s') := by
  have h2 : EqV (clearForce k s) (clearForce k s') :=
    h.of_eqOn (h.eqOn.mapFree _ _ (fun p p' hp => hp.setTag _ _)) ⟨rfl, rfl⟩ ⟨rfl, rfl⟩
  have h3 := foldl_rel2 EqV _ _ cfg.integrators (fun s s' ig _ hr => unprotect_eqV k ig hr) _ _ h2
  have h4 : EqOn (fun _ => True) (clearParticleData _) (clearParticleData _) :=
    h3.eqOn.mapFree _ _ (fun p p' hp => ⟨hp.colour, hp.slot, hp.frozen, hp.r, False.elim, fun key _ => by
      simp only [h3.pers, hp.colour, hp.tag key trivial]⟩)
  exact h3.of_eqOn (runSymbols_eqOn cfg (fun _ => trivial) hnv h4)
    ⟨(runSymbols_agree cfg hwf _).fi, (runSymbols_agree cfg hwf _).fi⟩
    ⟨(runSymbols_agree cfg hwf _).pers, (runSymbols_agree cfg hwf _).pers⟩

theorem forces_eqV (hwf : cfg.wf = true) (hnv : NoVel cfg) (k : Bool) {s s' : State} (h : EqV s s') :
    EqV (forces cfg k s) (forces cfg k s') :=
  h.of_eqOn (forces_eqOn cfg (fun _ => trivial) hnv k h.eqOn) ⟨(forces_agree cfg hwf k s).fi, (forces_agree cfg hwf k s').fi⟩
    ⟨(forces_agree cfg hwf k s).pers, (forces_agree cfg hwf k s').pers⟩

/-! ### changing lambda -/

def reLambda (g : Nat → Rat) : Integrator → Integrator
  | .vv c _ m => .vv c (g c) m
  | .euler c n => .euler c n

/-- the same input file with other `lambda` attributes -/
def Config.withLambda (cfg : Config) (g : Nat → Rat) : Config :=
  { cfg with integrators := cfg.integrators.map (reLambda g) }

theorem withLambda_wf (cfg : Config) (g : Nat → Rat) : (cfg.withLambda g).wf = cfg.wf := rfl

theorem vvOf_withLambda (g : Nat → Rat) (c : Nat) :
    vvOf (cfg.withLambda g) c = (vvOf cfg c).map (fun lm => (g c, lm.2)) := by
  show vvOfL (cfg.integrators.map (reLambda g)) c = (vvOfL cfg.integrators c).map _
  rw [vvOfL, vvOfL, List.filterMap_map, List.map_filterMap]
  congr 1
  funext ig
  cases ig with
  | vv c' l m => by_cases h : c' = c <;> simp [reLambda, h]
  | euler c' n => rfl

theorem vvOf_cases {cfg : Config} {c : Nat} (h : (vvOf cfg c).length ≤ 1) :
    vvOf cfg c = [] ∨ ∃ l m, vvOf cfg c = [(l, m)] := by
  match hv : vvOf cfg c with
  | [] => exact Or.inl rfl
  | [(l, m)] => exact Or.inr ⟨l, m, rfl⟩
  | _ :: _ :: _ => rw [hv] at h; simp at h

/-- `lambda` enters `integrateStep1` through the velocity only -/
theorem integ1P_fold_withLambda (g : Nat → Rat) (idx : Bool) (p : Particle)
    (hlen : (vvOf cfg p.colour).length ≤ 1) :
    PEqV (cfg.integrators.foldl (fun p ig => integ1P cfg idx ig p) p)
      ((cfg.withLambda g).integrators.foldl (fun p ig => integ1P (cfg.withLambda g) idx ig p) p) := by
  have hA := integ1P_fold_ident cfg idx cfg.integrators p
  have hB := integ1P_fold_ident (cfg.withLambda g) idx (cfg.withLambda g).integrators p
  -- the tag: the integrators of user quantities are the same
  have htag : ∀ q q' : Particle, q.colour = q'.colour ∧ q.tag = q'.tag →
      (cfg.integrators.foldl (fun p ig => integ1P cfg idx ig p) q).colour
        = ((cfg.integrators.map (reLambda g)).foldl (fun p ig => integ1P (cfg.withLambda g) idx ig p) q').colour ∧
      (cfg.integrators.foldl (fun p ig => integ1P cfg idx ig p) q).tag
        = ((cfg.integrators.map (reLambda g)).foldl (fun p ig => integ1P (cfg.withLambda g) idx ig p) q').tag := by
    simp only [List.foldl_map]
    refine foldl_rel2 (fun q q' : Particle => q.colour = q'.colour ∧ q.tag = q'.tag) _ _ _ (fun q q' ig _ h => ?_)
    cases ig with
    | vv c l m => simp only [integ1P, reLambda, onColour, h.1]; split <;> exact h
    | euler c name =>
      simp only [integ1P, reLambda, onColour, h.1]; split
      · exact ⟨h.1, by simp only [eulerStep1, Particle.addTag, Particle.setTag, h.2]; rfl⟩
      · exact h
  -- the position: `integratePosition` does not read `lambda`
  have hr := congrArg Particle.r (integ1P_fold_vv cfg idx cfg.integrators p)
  have hr' := congrArg Particle.r (integ1P_fold_vv (cfg.withLambda g) idx (cfg.withLambda g).integrators p)
  refine ⟨hA.1.trans hB.1.symm, hA.2.1.trans hB.2.1.symm, hA.2.2.trans hB.2.2.symm, (hr.trans ?_).trans hr'.symm,
    (htag p p ⟨rfl, rfl⟩).2⟩
  show ((vvOf cfg p.colour).foldl _ p).r = ((vvOf (cfg.withLambda g) p.colour).foldl _ p).r
  rw [vvOf_withLambda]
  obtain h | ⟨l, m, h⟩ := vvOf_cases hlen <;> rw [h] <;> rfl

theorem integ1s_withLambda (g : Nat → Rat) (st : State) (hlen : ∀ c, (vvOf cfg c).length ≤ 1) :
    EqV (cfg.integrators.foldl (integ1 cfg) st)
      ((cfg.withLambda g).integrators.foldl (integ1 (cfg.withLambda g)) st) := by
  rw [integ1_fold, integ1_fold]
  refine ⟨rfl, rfl, rfl, fun i => ?_⟩
  rw [mapFree_ps, mapFree_ps]; split
  · exact PEqV.refl _
  · exact integ1P_fold_withLambda cfg g st.forceIdx _ (hlen _)

theorem preForce_withLambda (g : Nat → Rat) (k : Bool) (s : State) :
    preForce (cfg.withLambda g) k s = preForce cfg k s := by
  have : (cfg.withLambda g).integrators.foldl (unprotect k) (clearForce k s)
      = cfg.integrators.foldl (unprotect k) (clearForce k s) := by
    show (cfg.integrators.map (reLambda g)).foldl (unprotect k) _ = _
    rw [List.foldl_map]
    congr 1
    funext s ig
    cases ig <;> rfl
  unfold preForce
  dsimp only
  rw [this]; rfl

theorem forces_withLambda (g : Nat → Rat) (k : Bool) (s : State) :
    forces (cfg.withLambda g) k s = forces cfg k s := rfl

/-- C05: when no expression reads a velocity, the result of a time step does not depend on the
predictor parameter `lambda` of the velocity-Verlet integrators. -/
theorem step_withLambda (hwf : cfg.wf = true) (hnv : NoVel cfg) (g : Nat → Rat) (st : State)
    (hlen : ∀ c, (vvOf cfg c).length ≤ 1) (i : Nat) (hi : i < st.n) :
    (step (cfg.withLambda g) st).ps i = (step cfg st).ps i := by
  have hpA := step_pres cfg st
  have hpB := step_pres (cfg.withLambda g) st
  have hwfB : (cfg.withLambda g).wf = true := hwf
  -- the states after the force evaluation differ in the velocities only
  have htag : ((step (cfg.withLambda g) st).ps i).tag = ((step cfg st).ps i).tag := by
    have hE := forces_eqV cfg hwf hnv (!st.forceIdx)
      (preForce_eqV cfg hwf hnv (!st.forceIdx) (integ1s_withLambda cfg g st hlen))
    rw [step_tag, step_tag, forces_withLambda, preState, preState, preForce_withLambda]
    exact (hE.ps i).2.2.2.2.symm
  cases hfz : (st.ps i).frozen
  · have hrv : ((step (cfg.withLambda g) st).ps i).r = ((step cfg st).ps i).r ∧
        ((step (cfg.withLambda g) st).ps i).v = ((step cfg st).ps i).v := by
      obtain hv | ⟨l, m, hv⟩ := vvOf_cases (hlen (st.ps i).colour)
      · have hvB : vvOf (cfg.withLambda g) (st.ps i).colour = [] := by rw [vvOf_withLambda, hv]; rfl
        have hA := step_noVV cfg hwf st i hfz hv
        have hB := step_noVV _ hwfB st i hfz hvB
        exact ⟨hB.1.trans hA.1.symm, hB.2.trans hA.2.symm⟩
      · have hvB : vvOf (cfg.withLambda g) (st.ps i).colour = [(g (st.ps i).colour, m)] := by
          rw [vvOf_withLambda, hv]; rfl
        have hA := step_vv cfg hwf st i hi hfz l m hv
        have hB := step_vv _ hwfB st i hi hfz _ m hvB
        exact ⟨hB.1.trans hA.1.symm, by rw [hB.2, hA.2, htag]; rfl⟩
    have hid := Particle.sameId.trans (hpB.ident i) (Particle.sameId.symm (hpA.ident i))
    exact Particle.ext' hid.1 hid.2.1 hid.2.2 hrv.1 hrv.2 htag
  · rw [hpA.frozen i hfz, hpB.frozen i hfz]

/-! ### time reversal

Position-only forces are a function of the positions and of the static data (`Stat`): `clearParticleData` and `runSymbols`
map two states with the same of both to states with the same symbols, whatever their velocities, force buffers and force
indices, and `totalForce` sees nothing else. -/

theorem totalForce_eqS (hnv : NoVel cfg) {S S' : State} (h : EqOn isSymKey S S') (i : Nat) (d : Dof) :
    totalForce cfg S i d = totalForce cfg S' i d := by
  unfold totalForce
  congr 1
  · refine vsum_map_congr _ _ _ (fun m hm => ?_)
    have hk := fun a b => pairKernel_congr cfg m (ne_true_of_eq_false (hnv.pairForces m hm))
      (fun n _ => isSymKey_sym n) (h.ps a) (h.ps b)
    simp only [pairForceOn, h.n, hk]
  · refine vsum_map_congr _ _ _ (fun m hm => ?_)
    rw [(h.ps i).colour, (h.ps i).eval_envP m.expr
      (ne_true_of_eq_false (hnv.partForces m hm)) (fun n _ => isSymKey_sym n)]

/-- static data: identities, persistence flags of symbols, and the symbol values that are never
recomputed (frozen particles; persistent attributes) -/
structure Stat (s s' : State) : Prop where
  n : s.n = s'.n
  ident : ∀ i, (s.ps i).colour = (s'.ps i).colour ∧ (s.ps i).slot = (s'.ps i).slot ∧ (s.ps i).frozen = (s'.ps i).frozen
  persSym : ∀ c n, s.pers c (.sym n) = s'.pers c (.sym n)
  tags : ∀ i n, ((s.ps i).frozen = true ∨ s.pers (s.ps i).colour (.sym n) = true) →
    (s.ps i).tag (.sym n) = (s'.ps i).tag (.sym n)

theorem Stat.refl (s : State) : Stat s s := ⟨rfl, fun _ => ⟨rfl, rfl, rfl⟩, fun _ _ => rfl, fun _ _ _ => rfl⟩

theorem Stat.symm {s s' : State} (h : Stat s s') : Stat s' s :=
  ⟨h.n.symm, fun i => Particle.sameId.symm (h.ident i),
   fun c n => (h.persSym c n).symm,
   fun i n hc => (h.tags i n (by rw [(h.ident i).2.2, (h.ident i).1, h.persSym]; exact hc)).symm⟩

theorem Stat.trans {s1 s2 s3 : State} (h1 : Stat s1 s2) (h2 : Stat s2 s3) : Stat s1 s3 :=
  ⟨h1.n.trans h2.n,
   fun i => Particle.sameId.trans (h1.ident i) (h2.ident i),
   fun c n => (h1.persSym c n).trans (h2.persSym c n),
   fun i n hc => (h1.tags i n hc).trans
     (h2.tags i n (by rw [← (h1.ident i).2.2, ← (h1.ident i).1, ← h1.persSym]; exact hc))⟩

theorem Stat.of_agree {W : Key → Prop} {s s' : State} (h : AgreeOff W s s') (hW : ∀ n, ¬ W (.sym n)) : Stat s' s :=
  ⟨h.n, fun i => (h.body i).sameId, fun c n => by rw [h.pers],
   fun i n _ => h.tag i _ (hW n)⟩

theorem Stat.of_pres {st st' : State} (hp : Pres st st') (hpers : ∀ c n, st'.pers c (.sym n) = st.pers c (.sym n))
    (htag : ∀ i n, (st.ps i).frozen = false → st.pers (st.ps i).colour (.sym n) = true →
      (st'.ps i).tag (.sym n) = (st.ps i).tag (.sym n)) : Stat st st' := by
  refine ⟨hp.n.symm, fun i => Particle.sameId.symm (hp.ident i),
    fun c n => (hpers c n).symm, fun i n hc => ?_⟩
  cases hfz : (st.ps i).frozen
  · exact (htag i n hfz (hc.resolve_left (by rw [hfz]; exact Bool.false_ne_true))).symm
  · rw [hp.frozen i hfz]

theorem symPipe_eqS (hnv : NoVel cfg) {Y X : State}
    (h : Stat Y X) (hr : ∀ i, (Y.ps i).r = (X.ps i).r) :
    EqOn isSymKey (runSymbols cfg (clearParticleData Y)) (runSymbols cfg (clearParticleData X)) := by
  refine runSymbols_eqOn cfg isSymKey_sym hnv ⟨h.n, fun i => ?_⟩
  have hid := h.ident i
  rw [clearParticleData, clearParticleData, mapFree_ps, mapFree_ps, ← hid.2.2]
  cases hfz : (Y.ps i).frozen
  · simp only [Bool.false_eq_true, if_false]
    refine ⟨hid.1, hid.2.1, rfl, hr i, False.elim, ?_⟩
    rintro _ ⟨n, rfl⟩
    show (if (Key.sym n).inTag && !Y.pers (Y.ps i).colour (.sym n) then 0 else (Y.ps i).tag (.sym n))
      = (if (Key.sym n).inTag && !X.pers (X.ps i).colour (.sym n) then 0 else (X.ps i).tag (.sym n))
    rw [← hid.1, ← h.persSym]
    cases hp : Y.pers (Y.ps i).colour (.sym n)
    · rfl
    · exact h.tags i n (Or.inr hp)
  · simp only [if_true]
    exact ⟨hid.1, hid.2.1, hid.2.2, hr i, False.elim, fun _ ⟨n, hn⟩ => hn ▸ h.tags i n (Or.inl hfz)⟩

theorem preInput_stat (k : Bool) (A : State) :
    Stat (cfg.integrators.foldl (unprotect k) (clearForce k A)) A ∧
    ∀ i, ((cfg.integrators.foldl (unprotect k) (clearForce k A)).ps i).r = (A.ps i).r := by
  have hps := unprotect_fold_keeps k cfg.integrators (clearForce k A)
  have hcf := clearForce_agree k A
  refine ⟨⟨hps.2.1.trans hcf.n, fun i => ?_, fun c n => ?_, fun i n _ => ?_⟩, fun i => ?_⟩
  · rw [hps.1]; exact (hcf.body i).sameId
  · rw [unprotect_fold_pers_sym]; rfl
  · rw [hps.1]; exact hcf.tag i _ not_isForceKey_sym
  · rw [hps.1]; exact (hcf.body i).r

theorem preForce_eqS (hnv : NoVel cfg) (k k' : Bool) {A B : State}
    (h : Stat A B) (hr : ∀ i, (A.ps i).r = (B.ps i).r) : EqOn isSymKey (preForce cfg k A) (preForce cfg k' B) := by
  have hA := preInput_stat cfg k A
  have hB := preInput_stat cfg k' B
  exact symPipe_eqS cfg hnv ((hA.1.trans h).trans hB.1.symm) (fun i => by rw [hA.2 i, hB.2 i, hr i])

theorem initState_eqS (hnv : NoVel cfg) (k : Bool) {A B : State}
    (h : Stat A B) (hr : ∀ i, (A.ps i).r = (B.ps i).r) : EqOn isSymKey (initState cfg A) (preForce cfg k B) := by
  have hA := initInput_agree cfg A
  have hB := preInput_stat cfg k B
  exact symPipe_eqS cfg hnv (((Stat.of_agree hA (fun n ⟨_, _, e⟩ => nomatch e)).trans h).trans hB.1.symm)
    (fun i => by rw [(hA.body i).r, hB.2 i, hr i])

/-- only velocity-Verlet integrators (explicit Euler for user quantities is not reversible) -/
def AllVV (cfg : Config) : Prop := ∀ ig ∈ cfg.integrators, ∃ c l m, ig = Integrator.vv c l m

/-- computed symbols are registered non-persistent, for every colour -/
def NPT (cfg : Config) (st : State) : Prop :=
  (∀ m ∈ cfg.caches, ∀ c, st.pers c (m.target.key false) = false) ∧
  (∀ m ∈ cfg.sums, ∀ c, st.pers c (m.target.key false) = false)

/-- no periodic direction: `wrap` and the minimum image are the identity (free space) -/
def NoWrap (cfg : Config) : Prop := cfg.box.perX = false ∧ cfg.box.perY = false ∧ cfg.box.perZ = false

/-- indices beyond `n` hold inert (frozen) dummies -/
def Junk (st : State) : Prop := ∀ i, st.n ≤ i → (st.ps i).frozen = true

theorem wrap_id (h : NoWrap cfg) (r : Vec3) : wrap cfg.box r = r := by
  simp [wrap, wrap1, h.1, h.2.1, h.2.2]

theorem notComputed_of_pers (st : State) (hnpt : NPT cfg st)
    (c : Nat) (n : String) (hp : st.pers c (.sym n) = true) : NotComputed cfg n := by
  constructor <;> intro m hm ht
  · have := hnpt.1 m hm c; rw [ht] at this; simp [Target.key, hp] at this
  · have := hnpt.2 m hm c; rw [ht] at this; simp [Target.key, hp] at this

theorem count_euler_zero (hvv : AllVV cfg) (c : Nat) (name : String) :
    cfg.integrators.count (.euler c name) = 0 :=
  List.count_eq_zero.mpr (fun hmem => by obtain ⟨_, _, _, h⟩ := hvv _ hmem; cases h)

/-- persistent symbols are not computed (`NPT`) and no integrator owns them -/
theorem stat_step (hwf : cfg.wf = true) (hvv : AllVV cfg) (st : State) (hnpt : NPT cfg st) :
    Stat st (step cfg st) :=
  .of_pres (step_pres cfg st) (step_pers_sym cfg hwf st) (fun i n hfz hc => by
    rw [step_euler cfg hwf st i hfz n (notComputed_of_pers cfg st hnpt _ n hc) hc, count_euler_zero cfg hvv]
    simp)

theorem stat_integ1 (hvv : AllVV cfg) (st : State) :
    Stat st (cfg.integrators.foldl (integ1 cfg) st) :=
  .of_pres (integ1s_pres cfg st) (fun c n => by rw [integ1s_pers]) (fun i n hfz _ => by
    rw [integ1s_ps cfg st i hfz, integ1P_fold_sym, count_euler_zero cfg hvv]; simp)

theorem stat_init (hwf : cfg.wf = true) (st : State) (hnpt : NPT cfg st) :
    Stat st (init cfg st) :=
  .of_pres (init_pres cfg st) (fun c n => by rw [(init_agree cfg hwf _).pers]) (fun i n _ hc =>
    init_keeps_sym cfg hwf st i n (notComputed_of_pers cfg st hnpt _ n hc) hc)

theorem NPT.of_stat {cfg : Config} (hwf : cfg.wf = true) {s s' : State} (h : NPT cfg s) (hs : Stat s s') : NPT cfg s' := by
  -- every target in question is a symbol, and `Stat` keeps the flags of symbols
  have key : ∀ t : Target, (∃ n, t = .sym n) → ∀ c, s.pers c (t.key false) = false → s'.pers c (t.key false) = false :=
    fun t ⟨n, hn⟩ c hc => by subst hn; exact (hs.persSym c n).symm.trans hc
  exact ⟨fun m hm c => key _ (wf_caches hwf hm).1 c (h.1 m hm c), fun m hm c => key _ (wf_sums hwf hm) c (h.2 m hm c)⟩

theorem Junk.of_pres {s s' : State} (h : Junk s) (hp : Pres s s') : Junk s' :=
  fun i hi => by rw [hp.frozen_eq]; exact h i (hp.n ▸ hi)

theorem Junk.lt {s : State} (h : Junk s) (i : Nat) (hf : (s.ps i).frozen = false) : i < s.n :=
  Nat.lt_of_not_le (fun hle => by rw [h i hle] at hf; cases hf)

/-- the current force buffer is the force field of the current positions (by `preForce_eqS` any state with the static data
and positions of `b`, and either buffer, would do on the right) -/
def Cons (cfg : Config) (b : State) : Prop :=
  ∀ i, (b.ps i).frozen = false → (b.ps i).tag (.force .vel b.forceIdx) = totalForce cfg (preForce cfg true b) i .vel

theorem cons_step (hwf : cfg.wf = true) (hnv : NoVel cfg) (hvv : AllVV cfg)
    (b : State) (hnpt : NPT cfg b) (hj : Junk b) : Cons cfg (step cfg b) := by
  intro i hf
  have hfb : (b.ps i).frozen = false := ((step_pres cfg b).frozen_eq i).symm.trans hf
  rw [step_force cfg hwf b i (hj.lt i hfb) hfb .vel (Or.inl rfl)]
  exact totalForce_eqS cfg hnv (preForce_eqS cfg hnv _ _
    ((stat_integ1 cfg hvv b).symm.trans (stat_step cfg hwf hvv b hnpt)) (fun j => (step_r cfg hwf b j).symm)) i .vel

theorem cons_init (hwf : cfg.wf = true) (hnv : NoVel cfg) (st0 : State) (hj : Junk st0)
    (hstat : Stat st0 (init cfg st0)) : Cons cfg (init cfg st0) := by
  intro i hf
  have hf0 : (st0.ps i).frozen = false := ((init_pres cfg st0).frozen_eq i).symm.trans hf
  rw [(init_agree cfg hwf _).fi, init_force cfg hwf st0 i (hj.lt i hf0) hf0 .vel (Or.inl rfl)]
  exact totalForce_eqS cfg hnv (initState_eqS cfg hnv _ hstat (fun j => ((init_agree cfg hwf st0).body j).r.symm)) i .vel

/-- reverse all velocities -/
def flip (st : State) : State := { st with ps := fun i => { st.ps i with v := -(st.ps i).v } }

/-- `a` is the time-reverse of `b`: same static data and positions, opposite velocities, same current forces -/
structure Rev (a b : State) : Prop where
  stat : Stat a b
  r : ∀ i, (a.ps i).r = (b.ps i).r
  v : ∀ i, (a.ps i).v = -(b.ps i).v
  f : ∀ i, (b.ps i).frozen = false → (a.ps i).tag (.force .vel a.forceIdx) = (b.ps i).tag (.force .vel b.forceIdx)

structure RevCfg (cfg : Config) : Prop where
  wf : cfg.wf = true
  noVel : NoVel cfg
  allVV : AllVV cfg
  oneVV : ∀ c, (vvOf cfg c).length ≤ 1
  noWrap : NoWrap cfg

theorem rev_flip (st : State) : Rev (flip st) st :=
  ⟨⟨rfl, fun _ => ⟨rfl, rfl, rfl⟩, fun _ _ => rfl, fun _ _ _ => rfl⟩, fun _ => rfl, fun _ => rfl, fun _ _ => rfl⟩

/-- velocity Verlet run backwards from `(r', -v')` with the forces swapped arrives at `(r, -v)` -/
theorem vv_reverse (r v F F' : Vec3) (dt m : Rat) :
    (r + dt • (v + ((1 / 2 : Rat) * dt) • ((1 / m) • F)))
        + dt • (-(v + (dt / 2) • ((1 / m) • (F + F'))) + ((1 / 2 : Rat) * dt) • ((1 / m) • F')) = r ∧
    -(v + (dt / 2) • ((1 / m) • (F + F'))) + (dt / 2) • ((1 / m) • (F' + F)) = -v := by
  have hr : ∀ r v f f' : Rat, (r + dt * (v + 1 / 2 * dt * (1 / m * f)))
      + dt * (-(v + dt / 2 * (1 / m * (f + f'))) + 1 / 2 * dt * (1 / m * f')) = r := by intros; grind
  have hv : ∀ v f f' : Rat, -(v + dt / 2 * (1 / m * (f + f'))) + dt / 2 * (1 / m * (f' + f)) = -v := by intros; grind
  exact ⟨Vec3.ext' (hr ..) (hr ..) (hr ..), Vec3.ext' (hv ..) (hv ..) (hv ..)⟩

/-- ONE STEP BACK: if `a` is the time-reverse of `step b` and the forces stored in `b` are the force
field of `b`'s positions, then `step a` is the time-reverse of `b`. -/
theorem rev_step (hc : RevCfg cfg) (a b : State) (hnpt : NPT cfg b) (hjb : Junk b)
    (hcons : Cons cfg b) (h : Rev a (step cfg b)) : Rev (step cfg a) b := by
  have hwf := hc.wf
  have hpb := step_pres cfg b
  have hpa := step_pres cfg a
  have hsb : Stat b (step cfg b) := stat_step cfg hwf hc.allVV b hnpt
  have hsa : Stat a (step cfg a) :=
    stat_step cfg hwf hc.allVV a ((hnpt.of_stat hwf hsb).of_stat hwf h.stat.symm)
  have hfz : ∀ i, (a.ps i).frozen = (b.ps i).frozen := fun i => (h.stat.ident i).2.2.trans (hpb.frozen_eq i)
  have hcol : ∀ i, (a.ps i).colour = (b.ps i).colour := fun i => (h.stat.ident i).1.trans (hpb.colour_eq i)
  have hja : Junk a := fun i hi => (hfz i).trans (hjb i (by rw [← hpb.n, ← h.stat.n]; exact hi))
  -- positions after the backward step, and velocities once the backward step is known to find the stored force of `b`;
  -- by the integrators of the particle's colour
  have hrv : ∀ i, ((step cfg a).ps i).r = (b.ps i).r ∧
      (((b.ps i).frozen = false →
          ((step cfg a).ps i).tag (.force .vel (!a.forceIdx)) = (b.ps i).tag (.force .vel b.forceIdx)) →
        ((step cfg a).ps i).v = -(b.ps i).v) := by
    intro i
    cases hfi : (b.ps i).frozen
    · have hfa : (a.ps i).frozen = false := (hfz i).trans hfi
      obtain hv | ⟨l, m, hv⟩ := vvOf_cases (hc.oneVV (b.ps i).colour)
      · have ha := step_noVV cfg hwf a i hfa (by rw [hcol]; exact hv)
        have hb := step_noVV cfg hwf b i hfi hv
        exact ⟨by rw [ha.1, h.r i, hb.1], fun _ => by rw [ha.2, h.v i, hb.2]⟩
      · have ha := step_vv cfg hwf a i (hja.lt i hfa) hfa l m (by rw [hcol]; exact hv)
        have hb := step_vv cfg hwf b i (hjb.lt i hfi) hfi l m hv
        rw [ha.1, ha.2, wrap_id cfg hc.noWrap, h.r i, h.v i, h.f i (hpb.free hfi), step_forceIdx, hb.1,
          wrap_id cfg hc.noWrap, hb.2]
        exact ⟨(vv_reverse ..).1, fun hnew => by rw [hnew rfl]; exact (vv_reverse 0 ..).2⟩
    · rw [hpa.frozen i ((hfz i).trans hfi), h.r i, h.v i, hpb.frozen i hfi]
      exact ⟨rfl, fun _ => rfl⟩
  -- the new force of the backward step is the stored force of `b`
  have hF : ∀ i, (b.ps i).frozen = false →
      ((step cfg a).ps i).tag (.force .vel (step cfg a).forceIdx) = (b.ps i).tag (.force .vel b.forceIdx) := by
    intro i hfi
    have hfa : (a.ps i).frozen = false := (hfz i).trans hfi
    rw [step_force cfg hwf a i (hja.lt i hfa) hfa .vel (Or.inl rfl), hcons i hfi]
    exact totalForce_eqS cfg hc.noVel (preForce_eqS cfg hc.noVel _ _
      (((stat_integ1 cfg hc.allVV a).symm.trans h.stat).trans hsb.symm)
      (fun j => by rw [← step_r cfg hwf a j]; exact (hrv j).1)) i .vel
  exact ⟨(hsa.symm.trans h.stat).trans hsb.symm, fun i => (hrv i).1,
    fun i => (hrv i).2 (fun hfi => by rw [← step_forceIdx]; exact hF i hfi), hF⟩

theorem run_cons (hc : RevCfg cfg) (st0 : State) (hnpt : NPT cfg st0) (hj : Junk st0) (k : Nat) :
    Cons cfg (run cfg k (init cfg st0)) ∧ NPT cfg (run cfg k (init cfg st0)) ∧ Junk (run cfg k (init cfg st0)) := by
  induction k with
  | zero =>
    have hs := stat_init cfg hc.wf st0 hnpt
    exact ⟨cons_init cfg hc.wf hc.noVel st0 hj hs, hnpt.of_stat hc.wf hs, hj.of_pres (init_pres cfg st0)⟩
  | succ k ih =>
    obtain ⟨_, h2, h3⟩ := ih
    exact ⟨cons_step cfg hc.wf hc.noVel hc.allVV _ h2 h3,
      h2.of_stat hc.wf (stat_step cfg hc.wf hc.allVV _ h2), h3.of_pres (step_pres cfg _)⟩

/-- run `N` steps, reverse the velocities, run `j ≤ N` steps: the time-reverse of the state after `N - j` steps -/
theorem rev_run (hc : RevCfg cfg) (st0 : State) (hnpt : NPT cfg st0) (hj : Junk st0) (N : Nat) :
    ∀ j, j ≤ N → Rev (run cfg j (flip (run cfg N (init cfg st0)))) (run cfg (N - j) (init cfg st0)) := by
  intro j
  induction j with
  | zero => intro _; exact rev_flip _
  | succ j ih =>
    intro hj1
    have ih' := ih (by omega)
    obtain ⟨hcons, hnpt', hjunk⟩ := run_cons cfg hc st0 hnpt hj (N - (j + 1))
    have e : N - j = (N - (j + 1)) + 1 := by omega
    rw [e] at ih'
    exact rev_step cfg hc _ _ hnpt' hjunk hcons ih'


end

/-! ### a small concrete scenario for the non-vacuity examples of `Props/C04 C05 C07 C10` -/
namespace Ex

def box : Box := ⟨⟨4, 4, 4⟩, true, true, true⟩

/-- one species: velocity Verlet (lambda 1/4, mass 2), an integrated scalar `s`; a pair sum `n`
(number of neighbours within 3/2), a reciprocal pair force `[rij]` with cutoff 1, a constant
one-particle force, a constant rate 3 for `s` -/
def cfg : Config :=
  { box := box, dt := 1/4,
    integrators := [.vv 0 (1/4) 2, .euler 0 "s"],
    caches := [],
    sums := [⟨0, 0, 0, .sym "n", 3/2, 1, .num 1, .num 1, .num 1⟩],
    pairForces := [⟨0, 0, 0, .force .vel, 1, -1, .rij, .vec ⟨1, 1, 1⟩, .vec ⟨1, 1, 1⟩⟩],
    partForces := [⟨0, 0, .force .vel, false, .vec ⟨0, 1, 0⟩⟩, ⟨0, 0, .force (.user "s"), false, .num 3⟩] }

/-- the same without the one-particle force on the velocity (closed system) -/
def cfgClosed : Config := { cfg with partForces := [⟨0, 0, .force (.user "s"), false, .num 3⟩] }

def pers0 : Nat → Key → Bool := fun _ k =>
  match k with
  | .sym "s" => true
  | .force (.user "s") _ => true
  | _ => false

/-- two free particles at distance 1/2, a third one at distance 5/4 from the first (inside the list
cutoff 3/2 of the colour pair, outside the force cutoff 1) -/
def st : State :=
  { n := 3,
    ps := fun i =>
      if i = 0 then ⟨0, 0, false, ⟨1, 1, 1⟩, ⟨1/2, 0, 0⟩, fun _ => 0⟩
      else if i = 1 then ⟨0, 1, false, ⟨3/2, 1, 1⟩, 0, fun _ => 0⟩
      else if i = 2 then ⟨0, 2, false, ⟨1, 9/4, 1⟩, 0, fun _ => 0⟩
      else default,
    forceIdx := false, pers := pers0 }

/-- free space (no periodic direction), velocity Verlet only, the reciprocal pair force only -/
def cfgRev : Config :=
  { cfg with box := ⟨⟨4, 4, 4⟩, false, false, false⟩, integrators := [.vv 0 (1/4) 2], partForces := [] }

/-- the same with the second particle frozen and carrying stale data -/
def stFrozen : State :=
  { st with ps := fun i =>
      if i = 1 then ⟨0, 0, true, ⟨3/2, 1, 1⟩, ⟨7, 7, 7⟩, fun _ => ⟨5, 5, 5⟩⟩ else st.ps i }

end Ex

end Sympler.Dyn
