import Sympler.DataFormatDriver
/-!
# Text round trip of `toStringByIndex` / `fromStringByIndex` (C14)

The `find`-based parsers of `POINT` and `TENSOR` recover what `operator<<` printed, for every
number codec that satisfies `NumCodec.Good` on the values involved (`sprintf("%g")` does not
print parentheses or commas, and `atof` reads it back, also after one blank); the executable
integer codec round-trips: `atoi (sprintf "%i" n) = n`.  Core Lean only.
-/
namespace Sympler.DataFormat

/-- the assumptions on libc's `%g` / `atof` for the values in `dom` -/
structure NumCodec.Good (nc : NumCodec) (dom : Rat → Prop) : Prop where
  noParL : ∀ x, dom x → '(' ∉ nc.fmtG x
  noParR : ∀ x, dom x → ')' ∉ nc.fmtG x
  noComma : ∀ x, dom x → ',' ∉ nc.fmtG x
  atof_fmtG : ∀ x, dom x → nc.atof (nc.fmtG x) = x
  atof_blank : ∀ x, dom x → nc.atof (' ' :: nc.fmtG x) = x

theorem splitAtChar_append {c : Char} {l : List Char} (r : List Char) (h : c ∉ l) :
    splitAtChar c (l ++ c :: r) = some (l, r) := by
  induction l with
  | nil => simp [splitAtChar]
  | cons x xs ih =>
    have hx : x ≠ c := fun e => h (by simp [e])
    have hxs : c ∉ xs := fun e => h (by simp [e])
    simp [splitAtChar, hx, ih hxs]

theorem splitAtChar_blank_append {c : Char} {l : List Char} (r : List Char) (hc : c ≠ ' ') (h : c ∉ l) :
    splitAtChar c (' ' :: l ++ c :: r) = some (' ' :: l, r) := by
  have : c ∉ ' ' :: l := by
    intro hm
    rcases List.mem_cons.1 hm with hm | hm
    · exact hc hm
    · exact h hm
  exact splitAtChar_append r this

def P3.dom (dom : Rat → Prop) (p : P3) : Prop := dom p.x ∧ dom p.y ∧ dom p.z

def T9.dom (dom : Rat → Prop) (t : T9) : Prop := P3.dom dom t.a ∧ P3.dom dom t.b ∧ P3.dom dom t.c

/-- the values on which the number codec is assumed to round-trip -/
def RVal.inDom (dom : Rat → Prop) (idom : Int → Prop) : RVal → Prop
  | .int n => idom n
  | .dbl x => dom x
  | .pt p => P3.dom dom p
  | .tens t => T9.dom dom t
  | _ => True

/-- the text between the parentheses of a printed point -/
def pointBody (nc : NumCodec) (p : P3) (rest : List Char) : List Char :=
  nc.fmtG p.x ++ ',' :: (' ' :: nc.fmtG p.y ++ ',' :: (' ' :: nc.fmtG p.z ++ ')' :: rest))

theorem pointBody_append (nc : NumCodec) (p : P3) (r r' : List Char) :
    pointBody nc p r ++ r' = pointBody nc p (r ++ r') := by
  simp only [pointBody, List.append_assoc, List.cons_append]

theorem showPoint_eq (nc : NumCodec) (p : P3) : showPoint nc p = '(' :: pointBody nc p [] := by
  simp only [showPoint, pointBody, List.append_assoc, List.cons_append, List.nil_append]

theorem parseTriple_pointBody {nc : NumCodec} {dom : Rat → Prop} (hg : nc.Good dom) {p : P3}
    (hp : P3.dom dom p) (whole rest : List Char) :
    parseTriple nc whole (pointBody nc p rest) = (p, rest) := by
  obtain ⟨hx, hy, hz⟩ := hp
  unfold parseTriple pointBody
  simp only [numUpTo]
  rw [splitAtChar_append _ (hg.noComma p.x hx)]
  simp only
  rw [splitAtChar_blank_append _ (by decide) (hg.noComma p.y hy)]
  simp only
  rw [splitAtChar_blank_append _ (by decide) (hg.noParR p.z hz)]
  simp only [hg.atof_fmtG p.x hx, hg.atof_blank p.y hy, hg.atof_blank p.z hz]

theorem parsePoint_showPoint {nc : NumCodec} {dom : Rat → Prop} (hg : nc.Good dom) {p : P3}
    (hp : P3.dom dom p) : parsePoint nc (showPoint nc p) = p := by
  unfold parsePoint
  rw [showPoint_eq]
  have : skipPast ('(' :: pointBody nc p []) '(' ('(' :: pointBody nc p []) = pointBody nc p [] := by
    simp [skipPast, splitAtChar]
  rw [this, parseTriple_pointBody hg hp]

theorem showTensor_eq (nc : NumCodec) (t : T9) :
    showTensor nc t = 't' :: 'e' :: 'n' :: 's' :: 'o' :: 'r' :: '(' :: '(' ::
      pointBody nc t.a (',' :: ' ' :: '(' :: pointBody nc t.b (',' :: ' ' :: '(' :: pointBody nc t.c [')'])) := by
  simp only [showTensor, showPoint_eq, List.cons_append, List.nil_append, pointBody_append]

theorem parseTensor_showTensor {nc : NumCodec} {dom : Rat → Prop} (hg : nc.Good dom) {t : T9}
    (ht : T9.dom dom t) : parseTensor nc (showTensor nc t) = t := by
  obtain ⟨ha, hb, hc⟩ := ht
  unfold parseTensor
  rw [showTensor_eq]
  generalize hw : ('t' :: 'e' :: 'n' :: 's' :: 'o' :: 'r' :: '(' :: '(' ::
      pointBody nc t.a (',' :: ' ' :: '(' :: pointBody nc t.b (',' :: ' ' :: '(' :: pointBody nc t.c [')']))) = whole
  have e0 : skipPast whole '(' whole = '(' ::
      pointBody nc t.a (',' :: ' ' :: '(' :: pointBody nc t.b (',' :: ' ' :: '(' :: pointBody nc t.c [')'])) := by
    rw [← hw]; simp [skipPast, splitAtChar]
  simp only [e0]
  have e1 : ∀ r, skipPast whole '(' ('(' :: r) = r := by intro r; simp [skipPast, splitAtChar]
  have e2 : ∀ r, skipPast whole ',' (',' :: r) = r := by intro r; simp [skipPast, splitAtChar]
  have e3 : ∀ r, skipPast whole '(' (' ' :: '(' :: r) = r := by intro r; simp [skipPast, splitAtChar]
  rw [e1, parseTriple_pointBody hg ha]
  simp only
  rw [e2, e3, parseTriple_pointBody hg hb]
  simp only
  rw [e2, e3, parseTriple_pointBody hg hc]

/-! ## The executable codec on integers -/

theorem digitVal_digitChar : ∀ d, d < 10 → digitVal? (digitChar d) = some d := by decide

theorem digitChar_plain : ∀ d, d < 10 →
    isSpaceC (digitChar d) = false ∧ digitChar d ≠ '-' ∧ digitChar d ≠ '+' := by decide

theorem natDigitsAux_spec : ∀ (fuel n : Nat) (acc : List Char), n < fuel →
    ∃ d rest L, d < 10 ∧ natDigitsAux fuel n acc = digitChar d :: rest ∧
      ∀ a k, readDigits (natDigitsAux fuel n acc) a k = readDigits acc (a * 10 ^ L + n) (k + L) := by
  intro fuel
  induction fuel with
  | zero => intro n acc h; omega
  | succ f ih =>
    intro n acc hn
    have hm : n % 10 < 10 := Nat.mod_lt _ (by decide)
    by_cases h10 : n < 10
    · refine ⟨n % 10, acc, 1, hm, by simp [natDigitsAux, h10], fun a k => ?_⟩
      simp only [natDigitsAux, h10, if_true, Nat.mod_eq_of_lt h10]
      simp [readDigits, digitVal_digitChar n h10]
    · obtain ⟨d, rest, L, hd, he, hL⟩ := ih (n / 10) (digitChar (n % 10) :: acc) (by omega)
      refine ⟨d, rest, L + 1, hd, by simp only [natDigitsAux, h10, if_false]; exact he, fun a k => ?_⟩
      simp only [natDigitsAux, h10, if_false]
      rw [hL]
      simp only [readDigits, digitVal_digitChar _ hm]
      have e1 : (a * 10 ^ L + n / 10) * 10 + n % 10 = a * 10 ^ (L + 1) + n := by
        rw [Nat.pow_succ, Nat.add_mul, Nat.mul_assoc]
        have := Nat.div_add_mod n 10
        omega
      rw [e1, Nat.add_assoc]

theorem atoiModel_natDigits (m : Nat) :
    atoiModel (natDigits m) = (m : Int) ∧ atoiModel ('-' :: natDigits m) = -(m : Int) := by
  obtain ⟨d, rest, L, hd, he, hL⟩ := natDigitsAux_spec (m + 1) m [] (by omega)
  obtain ⟨hsp, hminus, hplus⟩ := digitChar_plain d hd
  have hrd : readDigits (natDigits m) 0 0 = (m, L, []) := by
    unfold natDigits; rw [hL]; simp [readDigits]
  have hdw : (natDigits m).dropWhile isSpaceC = natDigits m := by
    unfold natDigits; rw [he]; simp [List.dropWhile, hsp]
  have hsign : readSign (natDigits m) = (false, natDigits m) := by
    unfold natDigits; rw [he]
    unfold readSign
    split
    · rename_i h; injection h with h1 _; exact absurd h1 hminus
    · rename_i h; injection h with h1 _; exact absurd h1 hplus
    · rfl
  constructor
  · unfold atoiModel
    simp only [hdw, hsign, hrd]
    simp
  · unfold atoiModel
    have : ('-' :: natDigits m).dropWhile isSpaceC = '-' :: natDigits m := by
      simp [List.dropWhile, isSpaceC]
    simp only [this, readSign, hrd]
    simp

theorem atoiModel_fmtIModel (n : Int) : atoiModel (fmtIModel n) = n := by
  unfold fmtIModel
  by_cases hn : n < 0
  · simp only [hn, if_true]
    rw [(atoiModel_natDigits n.natAbs).2]
    omega
  · simp only [hn, if_false]
    rw [(atoiModel_natDigits n.natAbs).1]
    omega

end Sympler.DataFormat
