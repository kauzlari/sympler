import Sympler.ExprSurface
import Sympler.ExprParseLemmas

/-!
# C03 — the parser on rendered surface expressions

`parse_render_sym`: the parser reads the text of an expression of its own grammar (`SE.ok`) as the tree
it stands for.  The text is balanced (`Bal`), so both bracket scans of `parseThis` pass through it (`Skip`,
`PClosed`); an operator looser than the level of `e` is not met outside brackets (`render_skip`), which
fixes the factory `parseThis` selects.

Core Lean only.
-/
namespace Sympler.Expr

open Sympler.Gen

namespace SE

theorem ok_fn_iff (f : Fn) (x : SE) : (fn f x).ok = true ↔ fnOK f = true ∧ x.ok = true := by
  simp only [ok, Bool.and_eq_true]

/-- (a unary minus is the binary `-` found at position 0, `parseBody`: hence its level 1 in `SE.lvl`) -/
theorem ok_neg_iff (x : SE) : (neg x).ok = true ↔ x.ok = true ∧ 2 ≤ x.lvl := by
  simp only [ok, Bool.and_eq_true, decide_eq_true_eq]

theorem ok_bin_iff (op : BinOp) (a b : SE) :
    (bin op a b).ok = true ↔ a.ok = true ∧ b.ok = true ∧ op.prec ≤ a.lvl ∧ op.prec + 1 ≤ b.lvl := by
  simp only [ok, Bool.and_eq_true, decide_eq_true_eq, and_assoc]

end SE

/-! ## `findWithoutParentheses`: texts the scan passes through -/

theorem findGo_cons (name : List Char) (c : Char) (pre suf : List Char) (l : Int) :
    findGo name (c :: pre) suf l =
      if (name.isPrefixOf (c :: suf) && l == 0) = true then some pre.length
      else findGo name pre (c :: suf)
        (if c = ')' then l + 1 else if c = '(' then l - 1 else l) := by
  rw [findGo]

/-- scanning `s` from the right for `name`, entered at level `l`, finds nothing and leaves the level
unchanged -/
def Skip (name : List Char) (l : Int) (s : List Char) : Prop :=
  ∀ pre suf, findGo name (s.reverse ++ pre) suf l = findGo name pre (s ++ suf) l

/-- the scan does not stop at the character `d`: the level is not `0`, or `name` does not begin with `d` -/
def Miss (name : List Char) (l : Int) (d : Char) : Prop :=
  ∀ suf, (name.isPrefixOf (d :: suf) && l == 0) = false

theorem Miss.of_pos {name : List Char} {l : Int} {d : Char} (h : 1 ≤ l) : Miss name l d := by
  intro suf
  have : (l == 0) = false := by
    have : l ≠ 0 := by omega
    simpa using this
  rw [this, Bool.and_false]

theorem Miss.of_ne {c d : Char} (l : Int) (h : c ≠ d) : Miss [c] l d := by
  intro suf
  simp [List.isPrefixOf, h]

theorem Skip.append {name : List Char} {l : Int} {a b : List Char} (ha : Skip name l a)
    (hb : Skip name l b) : Skip name l (a ++ b) := by
  intro pre suf
  rw [List.reverse_append, List.append_assoc, hb, ha, List.append_assoc]

theorem Skip.single {name : List Char} {l : Int} {d : Char} (h1 : d ≠ '(') (h2 : d ≠ ')')
    (hm : Miss name l d) : Skip name l [d] := by
  intro pre suf
  show findGo name (d :: pre) suf l = _
  rw [findGo_cons, hm suf]
  simp [h1, h2]

/-- `(s)` with `s` passed through at every level `≥ 1`: the `(` is met at such a level -/
theorem Skip.paren {name : List Char} {l : Int} {s : List Char} (hs : ∀ l', 1 ≤ l' → Skip name l' s)
    (hl : 0 ≤ l) (hm : Miss name l ')') : Skip name l ('(' :: (s ++ [')'])) := by
  intro pre suf
  have e1 : ('(' :: (s ++ [')'])).reverse ++ pre = ')' :: (s.reverse ++ ('(' :: pre)) := by simp
  have e2 : l + 1 - 1 = l := by omega
  have h3 : ('(' = ')') = False := by decide
  rw [e1, findGo_cons, hm suf]
  simp only [Bool.false_eq_true, if_false, if_true]
  rw [hs (l + 1) (by omega), findGo_cons, (Miss.of_pos (by omega) : Miss name (l + 1) '(')]
  simp only [Bool.false_eq_true, if_false, h3, if_true, e2]
  simp

theorem Skip.of_noparen {c : Char} {l : Int} : ∀ {s : List Char}, (∀ d ∈ s, d ≠ '(' ∧ d ≠ ')') → c ∉ s →
    Skip [c] l s
  | [], _, _ => fun _ _ => rfl
  | d :: _, hp, hc =>
    have hd := hp d (List.mem_cons_self ..)
    (Skip.single hd.1 hd.2 (.of_ne l fun h => hc (h ▸ List.mem_cons_self ..))).append
      (Skip.of_noparen (fun x hx => hp x (List.mem_cons_of_mem _ hx))
        fun hx => hc (List.mem_cons_of_mem _ hx))

/-- `Skip name l s` for every `name` and every `l ≥ 1`; only `RClosed.single` is stated in this form, the
proofs work with `Skip`, which also covers level 0 -/
def RClosed (s : List Char) : Prop :=
  ∀ (name pre suf : List Char) (l : Int), 1 ≤ l →
    findGo name (s.reverse ++ pre) suf l = findGo name pre (s ++ suf) l

theorem RClosed.single {c : Char} (h1 : c ≠ '(') (h2 : c ≠ ')') : RClosed [c] :=
  fun _ pre suf _ hl => Skip.single h1 h2 (.of_pos hl) pre suf

/-! ## The bracket loop: texts the scan for the closing bracket passes through -/

/-- scanning `s` from the left with `open ≥ 1` passes through and leaves `open` unchanged -/
def PClosed (s : List Char) : Prop :=
  ∀ (rest : List Char) (i o : Nat), 1 ≤ o → scanClose (s ++ rest) i o = scanClose rest (i + s.length) o

theorem PClosed.nil : PClosed [] := by intro rest i o _; rfl

theorem PClosed.single {c : Char} (h1 : c ≠ '(') (h2 : c ≠ ')') : PClosed [c] := by
  intro rest i o _
  show scanClose (c :: rest) i o = _
  rw [scanClose]
  simp [h1, h2]

theorem PClosed.append {a b : List Char} (ha : PClosed a) (hb : PClosed b) : PClosed (a ++ b) := by
  intro rest i o ho
  rw [List.append_assoc, ha _ i o ho, hb _ _ o ho, List.length_append, Nat.add_assoc]

theorem PClosed.paren {s : List Char} (hs : PClosed s) : PClosed ('(' :: (s ++ [')'])) := by
  intro rest i o ho
  show scanClose ('(' :: (s ++ [')'] ++ rest)) i o = _
  rw [scanClose]
  simp only [if_true]
  rw [List.append_assoc, hs _ (i+1) (o+1) (by omega)]
  show scanClose (')' :: rest) _ _ = _
  rw [scanClose]
  have h1 : (')' = '(') = False := by decide
  have h2 : ¬ (o + 1 ≤ 1) := by omega
  simp only [h1, if_false, if_true, h2]
  simp only [List.length_cons, List.length_append, List.length_nil]
  congr 1
  omega

/-! ## Balanced texts -/

/-- texts in which every bracket has its partner -/
inductive Bal : List Char → Prop
  | nil : Bal []
  | single {c : Char} : c ≠ '(' → c ≠ ')' → Bal [c]
  | append {a b : List Char} : Bal a → Bal b → Bal (a ++ b)
  | paren {s : List Char} : Bal s → Bal ('(' :: (s ++ [')']))

theorem Bal.of_noparen : ∀ {s : List Char}, (∀ c ∈ s, c ≠ '(' ∧ c ≠ ')') → Bal s
  | [], _ => .nil
  | c :: _, h =>
    have hc := h c (List.mem_cons_self ..)
    (Bal.single hc.1 hc.2).append (Bal.of_noparen fun d hd => h d (List.mem_cons_of_mem _ hd))

theorem Bal.skip {name s : List Char} (h : Bal s) : ∀ l, 1 ≤ l → Skip name l s := by
  induction h with
  | nil => intro l _ pre suf; rfl
  | single h1 h2 => intro l hl; exact .single h1 h2 (.of_pos hl)
  | append _ _ iha ihb => intro l hl; exact (iha l hl).append (ihb l hl)
  | paren _ ih => intro l hl; exact .paren ih (by omega) (.of_pos hl)

theorem Bal.pclosed {s : List Char} (h : Bal s) : PClosed s := by
  induction h with
  | nil => exact .nil
  | single h1 h2 => exact .single h1 h2
  | append _ _ iha ihb => exact iha.append ihb
  | paren _ ih => exact ih.paren

/-! ## Operator characters and the generated table -/

theorem opCh_ne_paren {c : Char} (h : SE.isOpCh c = true) : c ≠ '(' ∧ c ≠ ')' := by
  constructor <;> (intro hc; subst hc; revert h; decide)

theorem ch_isOpCh (o : BinOp) : SE.isOpCh o.ch = true := by cases o <;> decide

theorem ofName_ch (op : BinOp) : BinOp.ofName (String.ofList [op.ch]) = some op := by
  cases op <;> decide

theorem ch_injective {o o' : BinOp} (h : o.ch = o'.ch) : o = o' :=
  Option.some.inj (by rw [← ofName_ch o, h, ofName_ch])

theorem name_minus_iff (op : BinOp) : (String.ofList [op.ch] = "-") ↔ op = .sub := by
  cases op <;> decide

abbrev binF (o : BinOp) : Factory := ⟨[o.ch], true⟩

/-- side condition on the generated table: the binary operators come first, in the order of
`BinOp.all` (which defines `BinOp.prec`), each with a one-character name; the functions follow. -/
theorem factories_split : factories = BinOp.all.map binF ++ factories.drop 8 := by decide +kernel

theorem binFactory_mem (o : BinOp) : binF o ∈ factories := by
  rw [factories_split]
  exact List.mem_append_left _ (List.mem_map_of_mem (by cases o <;> decide))

/-! ## Running the grammar checks at `factoriesL` -/

theorem SE.atomOK_eq (s : List Char) : SE.atomOK s =
    (!s.isEmpty && s.all (fun c => c != '(' && c != ')') && (selectFactory factoriesL s).isNone) := by
  rw [SE.atomOK, factories_eq]

theorem SE.fnOK_eq (f : Fn) : SE.fnOK f =
    (decide (Fn.ofName f.name = some f) &&
      f.name.toList.all (fun c => c != '(' && c != ')' && !SE.isOpCh c) &&
      decide (selectFactory factoriesL (f.name.toList ++ ['(', ')']) = some (⟨f.name.toList, false⟩, 0))) := by
  rw [SE.fnOK, factories_eq]

/-- every registered function is recognised in front of a bracket (no registered name hides another one).
No proof uses it: it says that the hypothesis `SE.fnOK` of the grammar leaves no function of the table out. -/
theorem table_functions_ok :
    ∀ p ∈ ExprTable.unaryFuncs, ∃ f, Fn.ofName p.1 = some f ∧ SE.fnOK f = true := by
  simp only [SE.fnOK_eq]; decide +kernel

/-! ## Admissible atoms and function names -/

theorem findGo_hit_noparen {c : Char} : ∀ (r : List Char), (∀ d ∈ r, d ≠ '(' ∧ d ≠ ')') → c ∈ r →
    ∀ (suf : List Char), (findGo [c] r suf 0).isSome = true
  | [], _, h, _ => by cases h
  | d :: tl, hp, hc, suf => by
    have hd := hp d (List.mem_cons_self ..)
    rw [findGo_cons]
    by_cases hcd : c = d
    · subst hcd; simp [List.isPrefixOf]
    · rw [Miss.of_ne 0 hcd suf]
      simp only [Bool.false_eq_true, if_false, hd.1, hd.2]
      exact findGo_hit_noparen tl (fun x hx => hp x (List.mem_cons_of_mem _ hx))
        ((List.mem_cons.mp hc).resolve_left hcd) _

theorem selectFactory_none {fs : List Factory} {s : List Char} :
    selectFactory fs s = none → ∀ f ∈ fs, f.isBinary = true → findWP s f.name = none := by
  fun_induction selectFactory fs s <;> intro h f hf hb
  case case1 => cases hf
  case case2 => cases h
  case case3 hacc ih =>
    rcases List.mem_cons.mp hf with rfl | h1
    · simp [hb] at hacc
    · exact ih h f h1 hb
  case case4 hp ih =>
    rcases List.mem_cons.mp hf with rfl | h1
    · exact hp
    · exact ih h f h1 hb

theorem atomOK_noparen {s : List Char} (h : SE.atomOK s = true) : ∀ d ∈ s, d ≠ '(' ∧ d ≠ ')' := by
  simp only [SE.atomOK, Bool.and_eq_true, List.all_eq_true, bne_iff_ne, ne_eq] at h
  exact h.1.2

theorem atomOK_ne_nil {s : List Char} (h : SE.atomOK s = true) : s ≠ [] := by
  intro hs; subst hs; simp [SE.atomOK] at h

theorem atomOK_select {s : List Char} (h : SE.atomOK s = true) : selectFactory factories s = none := by
  simp only [SE.atomOK, Bool.and_eq_true, Option.isNone_iff_eq_none] at h
  exact h.2

/-- an admissible atom contains no operator character: the parser's search would find it -/
theorem atomOK_no_op {s : List Char} (h : SE.atomOK s = true) (o : BinOp) : o.ch ∉ s := by
  intro hmem
  have := findGo_hit_noparen s.reverse (fun d hd => atomOK_noparen h d (List.mem_reverse.mp hd))
    (List.mem_reverse.mpr hmem) []
  rw [show findGo [o.ch] s.reverse [] 0 = none from
    selectFactory_none (atomOK_select h) _ (binFactory_mem o) rfl] at this
  cases this

theorem fnOK_facts {f : Fn} (h : SE.fnOK f = true) :
    Fn.ofName f.name = some f ∧ (∀ d ∈ f.name.toList, d ≠ '(' ∧ d ≠ ')') ∧
    (∀ d ∈ f.name.toList, SE.isOpCh d = false) ∧
    selectFactory factories (f.name.toList ++ ['(', ')']) = some (⟨f.name.toList, false⟩, 0) := by
  simp only [SE.fnOK, Bool.and_eq_true, decide_eq_true_eq, List.all_eq_true, bne_iff_ne, ne_eq,
    Bool.not_eq_true'] at h
  exact ⟨h.1.1, fun d hd => ⟨(h.1.2 d hd).1.1, (h.1.2 d hd).1.2⟩, fun d hd => (h.1.2 d hd).2, h.2⟩

theorem fname_ne_nil {f : Fn} (h : SE.fnOK f = true) : f.name.toList ≠ [] :=
  (factories_names_noparen _ (selectFactory_some (fnOK_facts h).2.2.2).1).1

/-! ## The text of an expression -/

theorem render_bal : ∀ (e : SE), e.ok = true → Bal e.render := by
  intro e
  induction e with
  | atom s => intro h; exact .of_noparen (atomOK_noparen h)
  | fn f x ih =>
    intro h
    obtain ⟨hf, hx⟩ := (SE.ok_fn_iff f x).mp h
    exact (Bal.of_noparen (fnOK_facts hf).2.1).append (ih hx).paren
  | paren x ih => intro h; exact (ih h).paren
  | neg x ih =>
    intro h
    exact (Bal.single (c := '-') (by decide) (by decide)).append (ih ((SE.ok_neg_iff x).mp h).1)
  | bin op a b iha ihb =>
    intro h
    obtain ⟨ha, hb, _, _⟩ := (SE.ok_bin_iff op a b).mp h
    have hop := opCh_ne_paren (ch_isOpCh op)
    exact (iha ha).append ((Bal.single hop.1 hop.2).append (ihb hb))

/-- The first character of the text.  It is not `)`; if it is `(`, this bracket encloses the text of an
expression `y`, and something follows its partner unless the whole is `(y)`. -/
theorem render_cons : ∀ (e : SE), e.ok = true → ∃ c tl, e.render = c :: tl ∧ c ≠ ')' ∧
    (c = '(' → ∃ (y : SE) (rest : List Char), y.ok = true ∧ tl = y.render ++ ')' :: rest ∧
      ((∀ x, e ≠ .paren x) → rest ≠ [])) := by
  intro e
  induction e with
  | atom s =>
    intro h
    cases s with
    | nil => exact absurd rfl (atomOK_ne_nil h)
    | cons c tl =>
      have hc := atomOK_noparen h c (List.mem_cons_self ..)
      exact ⟨c, tl, rfl, hc.2, fun h0 => absurd h0 hc.1⟩
  | fn f x _ =>
    intro h
    obtain ⟨hf, _⟩ := (SE.ok_fn_iff f x).mp h
    cases hs : f.name.toList with
    | nil => exact absurd hs (fname_ne_nil hf)
    | cons c tl =>
      have hc := (fnOK_facts hf).2.1 c (by rw [hs]; exact List.mem_cons_self ..)
      exact ⟨c, _, by rw [SE.render, hs]; rfl, hc.2, fun h0 => absurd h0 hc.1⟩
  | paren x _ =>
    intro h
    exact ⟨_, _, rfl, by decide, fun _ => ⟨x, [], h, rfl, fun hne => absurd rfl (hne x)⟩⟩
  | neg x _ => intro _; exact ⟨_, _, rfl, by decide, fun h0 => absurd h0 (by decide)⟩
  | bin op a b iha _ =>
    intro h
    obtain ⟨c, tl, hr, hc, hp⟩ := iha ((SE.ok_bin_iff op a b).mp h).1
    refine ⟨c, tl ++ op.ch :: b.render, by rw [SE.render, hr]; rfl, hc, fun h0 => ?_⟩
    obtain ⟨y, r, hy, htl, _⟩ := hp h0
    exact ⟨y, r ++ op.ch :: b.render, hy, by rw [htl]; simp, fun _ => by simp⟩

/-! ## Which factory `parseThis` selects -/

/-- an operator looser than the level of `e` is not met outside the brackets of `e` -/
theorem render_skip : ∀ (e : SE), e.ok = true → ∀ o : BinOp, o.prec < e.lvl → Skip [o.ch] 0 e.render := by
  intro e
  induction e with
  | atom s => intro h o _; exact .of_noparen (atomOK_noparen h) (atomOK_no_op h o)
  | fn f x _ =>
    intro h o _
    obtain ⟨hf, hx⟩ := (SE.ok_fn_iff f x).mp h
    obtain ⟨_, hnp, hno, _⟩ := fnOK_facts hf
    refine (Skip.of_noparen hnp fun hm => ?_).append
      (.paren (render_bal x hx).skip (Int.le_refl 0) (.of_ne 0 (opCh_ne_paren (ch_isOpCh o)).2))
    have := hno _ hm
    rw [ch_isOpCh] at this
    cases this
  | paren x _ =>
    intro h o _
    exact .paren (render_bal x h).skip (Int.le_refl 0) (.of_ne 0 (opCh_ne_paren (ch_isOpCh o)).2)
  | neg x ih =>
    intro h o hl
    obtain ⟨hx, hxl⟩ := (SE.ok_neg_iff x).mp h
    have hne : o.ch ≠ '-' := fun hc => by
      rw [ch_injective (o' := .sub) hc] at hl
      exact Nat.lt_irrefl _ hl
    have hl : o.prec < 1 := hl
    exact (Skip.single (by decide) (by decide) (.of_ne 0 hne)).append (ih hx o (by omega))
  | bin op a b iha ihb =>
    intro h o hl
    obtain ⟨ha, hb, hal, hbl⟩ := (SE.ok_bin_iff op a b).mp h
    have hl : o.prec < op.prec := hl
    have hne : o.ch ≠ op.ch := fun hc => by
      rw [ch_injective hc] at hl
      exact Nat.lt_irrefl _ hl
    have hop := opCh_ne_paren (ch_isOpCh op)
    exact (iha ha o (by omega)).append
      ((Skip.single hop.1 hop.2 (.of_ne 0 hne)).append (ihb hb o (by omega)))

theorem findWP_none {e : SE} (h : e.ok = true) {o : BinOp} (ho : o.prec < e.lvl) :
    findWP e.render [o.ch] = none := by
  have := render_skip e h o ho [] []
  rw [List.append_nil] at this
  exact this

theorem findWP_hit {c : Char} {s t : List Char} (ht : Skip [c] 0 t) :
    findWP (s ++ c :: t) [c] = some s.length := by
  unfold findWP
  have e1 : (s ++ c :: t).reverse = t.reverse ++ c :: s.reverse := by simp
  rw [e1, ht, findGo_cons]
  simp [List.isPrefixOf]

theorem selectFactory_skip {s : List Char} {rest : List Factory} : ∀ (os : List BinOp),
    (∀ o ∈ os, findWP s [o.ch] = none) →
    selectFactory (os.map binF ++ rest) s = selectFactory rest s
  | [], _ => rfl
  | o :: os, h => by
    show selectFactory (binF o :: (os.map binF ++ rest)) s = _
    rw [selectFactory]
    have : findWP s (binF o).name = none := h o (List.mem_cons_self ..)
    rw [this]
    exact selectFactory_skip os (fun o' ho' => h o' (List.mem_cons_of_mem _ ho'))

theorem selectFactory_hit {s : List Char} {rest : List Factory} {o : BinOp} {k : Nat}
    (h : findWP s [o.ch] = some k) : selectFactory (binF o :: rest) s = some (binF o, k) := by
  rw [selectFactory]
  have : findWP s (binF o).name = some k := h
  rw [this]
  rfl

theorem all_split (op : BinOp) :
    BinOp.all = BinOp.all.take op.prec ++ op :: BinOp.all.drop (op.prec + 1) := by
  cases op <;> rfl

theorem take_prec_lt (op : BinOp) : ∀ o ∈ BinOp.all.take op.prec, o.prec < op.prec := by
  cases op <;> decide

/-- the factory selected for a text in which no operator looser than `op` is found and the right-most
`op` outside brackets is at position `k` -/
theorem selectFactory_op {s : List Char} {op : BinOp} {k : Nat}
    (hlow : ∀ o : BinOp, o.prec < op.prec → findWP s [o.ch] = none)
    (hop : findWP s [op.ch] = some k) :
    selectFactory factories s = some (binF op, k) := by
  rw [factories_split, all_split op, List.map_append, List.append_assoc]
  rw [selectFactory_skip _ (fun o ho => hlow o (take_prec_lt op o ho))]
  exact selectFactory_hit hop

theorem selectFactory_bin {op : BinOp} {a b : SE} (h : (SE.bin op a b).ok = true) :
    selectFactory factories (SE.bin op a b).render = some (binF op, a.render.length) := by
  obtain ⟨_, hb, _, hbl⟩ := (SE.ok_bin_iff op a b).mp h
  exact selectFactory_op (fun o ho => findWP_none h ho) (findWP_hit (render_skip b hb op hbl))

theorem selectFactory_neg {x : SE} (h : (SE.neg x).ok = true) :
    selectFactory factories (SE.neg x).render = some (binF .sub, 0) := by
  obtain ⟨hx, hxl⟩ := (SE.ok_neg_iff x).mp h
  exact selectFactory_op (fun o ho => findWP_none h ho) (findWP_hit (s := []) (render_skip x hx .sub hxl))

/-! ### Function applications: the argument does not influence the selection -/

theorem isPrefixOf_bracket_irrel {g : List Char} (hg : '(' ∉ g) : ∀ (z Y Y' : List Char),
    g.isPrefixOf (z ++ '(' :: Y) = g.isPrefixOf (z ++ '(' :: Y') := by
  induction g with
  | nil => intro z Y Y'; simp [List.isPrefixOf]
  | cons a g' ih =>
    intro z Y Y'
    have ha : a ≠ '(' := fun h => hg (by simp [h])
    have hg' : '(' ∉ g' := fun h => hg (List.mem_cons_of_mem _ h)
    cases z with
    | nil =>
      have : (a == '(') = false := by simpa using ha
      simp [List.isPrefixOf, this]
    | cons b z' =>
      show List.isPrefixOf (a :: g') (b :: (z' ++ '(' :: Y)) = List.isPrefixOf (a :: g') (b :: (z' ++ '(' :: Y'))
      simp only [List.isPrefixOf]
      rw [ih hg' z' Y Y']

theorem findGo_bracket_irrel {g : List Char} (hg : '(' ∉ g) : ∀ (pre z Y Y' : List Char) (l : Int),
    findGo g pre (z ++ '(' :: Y) l = findGo g pre (z ++ '(' :: Y') l
  | [], _, _, _, _ => rfl
  | c :: pre, z, Y, Y', l => by
    rw [findGo_cons, findGo_cons]
    have e1 : c :: (z ++ '(' :: Y) = (c :: z) ++ '(' :: Y := rfl
    have e2 : c :: (z ++ '(' :: Y') = (c :: z) ++ '(' :: Y' := rfl
    rw [e1, e2, isPrefixOf_bracket_irrel hg (c :: z) Y Y', findGo_bracket_irrel hg pre (c :: z) Y Y']

theorem findWP_fn_irrel {g fname body : List Char} (hg0 : g ≠ []) (hg1 : '(' ∉ g) (hg2 : ')' ∉ g)
    (hb : Bal body) :
    findWP (fname ++ ('(' :: (body ++ [')']))) g = findWP (fname ++ ['(', ')']) g := by
  have hm : Miss g 0 ')' := by
    intro suf
    cases g with
    | nil => exact absurd rfl hg0
    | cons a g' =>
      have : a ≠ ')' := fun h => hg2 (by simp [h])
      simp [List.isPrefixOf, this]
  unfold findWP
  rw [List.reverse_append, List.reverse_append]
  exact (Skip.paren hb.skip (Int.le_refl 0) hm _ _).trans
    ((findGo_bracket_irrel hg1 fname.reverse [] _ _ 0).trans
      (Skip.paren (s := []) Bal.nil.skip (Int.le_refl 0) hm _ _).symm)

theorem selectFactory_congr {s s' : List Char} : ∀ (fs : List Factory),
    (∀ f ∈ fs, findWP s f.name = findWP s' f.name) → selectFactory fs s = selectFactory fs s'
  | [], _ => rfl
  | f :: fs, h => by
    rw [selectFactory, selectFactory, h f (List.mem_cons_self ..),
      selectFactory_congr fs (fun g hg => h g (List.mem_cons_of_mem _ hg))]

theorem selectFactory_fn {f : Fn} {x : SE} (h : (SE.fn f x).ok = true) :
    selectFactory factories (SE.fn f x).render = some (⟨f.name.toList, false⟩, 0) := by
  obtain ⟨hf, hx⟩ := (SE.ok_fn_iff f x).mp h
  rw [← (fnOK_facts hf).2.2.2]
  apply selectFactory_congr
  intro g hg
  obtain ⟨g0, g1, g2⟩ := factories_names_noparen g hg
  exact findWP_fn_irrel g0 g1 g2 (render_bal x hx)

/-! ## The bracket loop on the text of an expression -/

def SE.core : SE → SE
  | .paren x => x.core
  | e => e

theorem core_not_paren (e : SE) : ∀ x, e.core ≠ .paren x := by
  fun_induction SE.core e with
  | case1 x ih => exact ih
  | case2 e h => exact h

theorem core_ok (e : SE) : e.ok = true → e.core.ok = true := by
  fun_induction SE.core e with
  | case1 x ih => exact ih
  | case2 e h => exact id

theorem core_toTree (known : String → Bool) (e : SE) : e.core.toTree known = e.toTree known := by
  fun_induction SE.core e with
  | case1 x ih => exact ih
  | case2 e h => rfl

theorem core_length (e : SE) : e.core.render.length ≤ e.render.length := by
  fun_induction SE.core e with
  | case1 x ih => simp only [SE.render, List.length_cons, List.length_append, List.length_nil]; omega
  | case2 e h => exact Nat.le_refl _

/-- one pass of the bracket loop over `(y)rest`: the brackets are stripped if nothing follows, the loop
ends otherwise -/
theorem stripLoop_paren (fuel : Nat) {y : SE} (hy : y.ok = true) (rest : List Char) :
    stripLoop (fuel+1) ('(' :: (y.render ++ ')' :: rest)) =
      if rest = [] then stripLoop fuel y.render else .ok ('(' :: (y.render ++ ')' :: rest)) := by
  obtain ⟨c, tl, hr, hc, _⟩ := render_cons y hy
  have hp := (render_bal y hy).pclosed (')' :: rest) 1 1 (Nat.le_refl _)
  rw [hr] at hp ⊢
  show stripLoop (fuel+1) ('(' :: c :: (tl ++ ')' :: rest)) = _
  rw [stripLoop, if_neg (not_not_intro rfl), if_neg hc]
  have hs : scanClose (c :: (tl ++ ')' :: rest)) 1 1 = (some (1 + (c :: tl).length), 0) := by
    rw [List.cons_append] at hp
    rw [hp]
    simp [scanClose]
  rw [hs]
  dsimp only
  by_cases hrest : rest = []
  · subst hrest
    have hlen : 1 + (c :: tl).length + 1 = ('(' :: c :: (tl ++ [')'])).length := by
      simp only [List.length_cons, List.length_append, List.length_nil]; omega
    have hd : (c :: (tl ++ [')'])).dropLast = c :: tl := List.dropLast_concat (l₁ := c :: tl)
    rw [if_pos hlen, if_pos rfl, hd]
  · have hlen : ¬ (1 + (c :: tl).length + 1 = ('(' :: c :: (tl ++ ')' :: rest)).length) := by
      have := List.length_pos_iff.mpr hrest
      simp only [List.length_cons, List.length_append]
      omega
    rw [if_neg hlen, if_neg hrest]
    rfl

theorem stripLoop_render (e : SE) (h : e.ok = true) : ∀ fuel, e.render.length < fuel →
    stripLoop fuel e.render = .ok e.core.render := by
  fun_induction SE.core e with
  | case1 x ih =>
    intro fuel hf
    obtain ⟨k, rfl⟩ : ∃ k, fuel = k + 1 := ⟨fuel - 1, by omega⟩
    show stripLoop (k+1) ('(' :: (x.render ++ [')'])) = _
    rw [stripLoop_paren k (y := x) h [], if_pos rfl]
    refine ih h k ?_
    simp only [SE.render, List.length_cons, List.length_append, List.length_nil] at hf
    omega
  | case2 e hnp =>
    intro fuel hf
    obtain ⟨k, rfl⟩ : ∃ k, fuel = k + 1 := ⟨fuel - 1, by omega⟩
    obtain ⟨c, tl, hr, _, hp⟩ := render_cons e h
    by_cases hc : c = '('
    · obtain ⟨y, r, hy, htl, hne⟩ := hp hc
      rw [hr, hc, htl, stripLoop_paren k hy r, if_neg (hne hnp)]
    · rw [hr]
      cases tl with
      | nil => simp [stripLoop]
      | cons c1 tl' => rw [stripLoop, if_pos hc]

theorem stripBrackets_render (e : SE) (h : e.ok = true) :
    stripBrackets e.render = .ok e.core.render := by
  unfold stripBrackets
  split
  next rest heq =>
    obtain ⟨c, tl, hr, _, hp⟩ := render_cons e h
    rw [hr] at heq
    injection heq with hc htl
    obtain ⟨y, r, hy, hrest, _⟩ := hp hc
    obtain ⟨d, _, hd, hne, _⟩ := render_cons y hy
    rw [if_neg (by rw [← htl, hrest, hd]; simpa using hne)]
    exact stripLoop_render e h _ (Nat.lt_succ_self _)
  next hnot =>
    have hcore : e.core = e := by
      cases e with
      | paren x => exact absurd rfl (hnot (x.render ++ [')']))
      | _ => rfl
    rw [hcore]

/-! ## The parser on the text of an expression -/

/-- `parseBody` on the text of an expression that is not a bracket, given that the recursive calls are
right on all shorter texts -/
theorem parseBody_render (known : String → Bool) (rec : List Char → Except Err Tree) (n : Nat)
    (hrec : ∀ x : SE, x.ok = true → x.render.length < n → rec x.render = x.toTree known) :
    ∀ (e : SE), e.ok = true → (∀ x, e ≠ .paren x) → e.render.length ≤ n →
      parseBody known rec e.render = e.toTree known := by
  intro e h hnp hlen
  cases e with
  | paren x => exact absurd rfl (hnp x)
  | atom s =>
    unfold parseBody
    show (match selectFactory factories s with
      | none => valueFromString known s
      | some (f, pos) => _) = _
    rw [atomOK_select h]
    rfl
  | fn f x =>
    obtain ⟨hf, hx⟩ := (SE.ok_fn_iff f x).mp h
    have hpos := List.length_pos_iff.mpr (fname_ne_nil hf)
    unfold parseBody
    rw [selectFactory_fn h]
    simp only [Bool.false_eq_true, if_false, String.ofList_toList, (fnOK_facts hf).1]
    have hdrop : List.drop f.name.toList.length (SE.fn f x).render = (SE.paren x).render := by
      simp [SE.render]
    rw [hdrop, hrec (.paren x) hx (by
      simp only [SE.render, List.length_cons, List.length_append, List.length_nil] at hlen ⊢
      omega)]
    rfl
  | neg x =>
    obtain ⟨hx, _⟩ := (SE.ok_neg_iff x).mp h
    unfold parseBody
    rw [selectFactory_neg h]
    have hdrop : List.drop 1 (SE.neg x).render = x.render := rfl
    simp only [if_true, (name_minus_iff .sub).mpr rfl, decide_true, Bool.and_self]
    rw [hdrop, hrec x hx (by simp only [SE.render, List.length_cons] at hlen; omega)]
    rfl
  | bin op a b =>
    obtain ⟨ha, hb, _, _⟩ := (SE.ok_bin_iff op a b).mp h
    obtain ⟨c, tl, har, _⟩ := render_cons a ha
    unfold parseBody
    rw [selectFactory_bin h]
    dsimp only
    have hcond : ¬ ((decide (String.ofList [op.ch] = "-") && decide (a.render.length = 0)) = true) := by
      rw [har]
      simp
    have hdrop : List.drop (a.render.length + [op.ch].length) (SE.bin op a b).render = b.render := by
      simp [SE.render]
    have htake : List.take a.render.length (SE.bin op a b).render = a.render := by
      simp [SE.render]
    simp only [SE.render, List.length_append, List.length_cons] at hlen
    rw [if_pos rfl, if_neg hcond, ofName_ch]
    dsimp only
    rw [hdrop, htake, hrec b hb (by omega), hrec a ha (by omega)]
    rfl

theorem parse_render_sym (known : String → Bool) : ∀ (n : Nat) (e : SE), e.ok = true →
    e.render.length < n → parseCore known n e.render = e.toTree known
  | 0, _, _, h => by omega
  | n+1, e, hok, hlen => by
    rw [parseCore, stripBrackets_render e hok]
    show parseBody known (parseCore known n) e.core.render = _
    rw [parseBody_render known (parseCore known n) n
      (fun x hx hxl => parse_render_sym known n x hx hxl) e.core (core_ok e hok) (core_not_paren e)
      (by have := core_length e; omega), core_toTree]

end Sympler.Expr
