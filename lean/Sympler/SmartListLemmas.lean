import Sympler.SmartList
/-!
# Helper lemmas for the `SmartList` model (C15)

Core Lean only.  `Inv` ties the counters, the free list, `first`/`last` and every live cell to the list
`spec` of live slots in insertion order (`nextOf`/`prevOf` give a cell's `next`/`prev`); every
operation keeps it, so iteration yields `spec`.
-/
namespace Sympler.SmartList

/-! ## Address macros -/

theorem slot2chunk_eq {p : Params} (h : p.chunkLen = 2 ^ p.chunkSh) (x : Nat) :
    slot2chunk p x = x / p.chunkLen := by
  simp [slot2chunk, Gen.SmartList.slot2chunk, Nat.shiftRight_eq_div_pow, h]

theorem slot2index_eq {p : Params} (h : p.chunkLen = 2 ^ p.chunkSh) (x : Nat) :
    slot2index p x = x % p.chunkLen := by
  simp [slot2index, Gen.SmartList.slot2index, h]

theorem chunkLen_pos {p : Params} (h : p.chunkLen = 2 ^ p.chunkSh) : 0 < p.chunkLen := by
  rw [h]; exact Nat.two_pow_pos _

theorem addr_inj {p : Params} (h : p.chunkLen = 2 ^ p.chunkSh) {x y : Nat} :
    addr p x = addr p y ↔ x = y := by
  constructor
  · intro e
    simp only [addr, Prod.mk.injEq, slot2chunk_eq h, slot2index_eq h] at e
    rw [← Nat.div_add_mod x p.chunkLen, ← Nat.div_add_mod y p.chunkLen, e.1, e.2]
  · intro e; rw [e]

theorem addr_snd_lt {p : Params} (h : p.chunkLen = 2 ^ p.chunkSh) (x : Nat) :
    (addr p x).2 < p.chunkLen := by
  simp only [addr, slot2index_eq h]
  exact Nat.mod_lt _ (chunkLen_pos h)

theorem addr_fst_lt {p : Params} (h : p.chunkLen = 2 ^ p.chunkSh) {x n : Nat}
    (hx : x < n * p.chunkLen) : (addr p x).1 < n := by
  simp only [addr, slot2chunk_eq h]
  exact (Nat.div_lt_iff_lt_mul (chunkLen_pos h)).2 hx

theorem map_addr_eq_some {p : Params} (hp : p.chunkLen = 2 ^ p.chunkSh) (o : Option Nat) (x : Nat) :
    o.map (addr p) = some (addr p x) ↔ o = some x :=
  Option.map_inj_right (o' := some x) fun _ _ => (addr_inj hp).1

/-! ## Free-list queue -/

@[simp] theorem FreeList.toList_empty : FreeList.empty.toList = [] := rfl

@[simp] theorem FreeList.toList_pushBack (q : FreeList) (x : Nat) :
    (q.pushBack x).toList = q.toList ++ [x] := by
  simp [FreeList.pushBack, FreeList.toList]

theorem FreeList.isEmpty_iff (q : FreeList) : q.isEmpty = true ↔ q.toList = [] := by
  simp [FreeList.isEmpty, FreeList.toList]

theorem FreeList.popFront?_eq (q : FreeList) :
    match q.popFront? with
    | none => q.toList = []
    | some (f, r) => q.toList = f :: r.toList := by
  unfold FreeList.popFront? FreeList.toList
  cases hf : q.front with
  | cons f r => simp
  | nil =>
    cases hb : q.back.reverse with
    | nil => simp
    | cons f r => simp

/-! ## Memory -/

section Memory
variable (m : Mem) (a b : Addr) (o : Option Addr) (f : Entry → Entry)

theorem Mem.read_write :
    (m.write a f).read b = if a = b ∧ m.inBounds a = true then f (m.read a) else m.read b := by
  obtain ⟨a1, a2⟩ := a
  obtain ⟨b1, b2⟩ := b
  simp only [Mem.read, Mem.write, Mem.inBounds, Array.getElem?_modify, Prod.mk.injEq]
  by_cases h1 : a1 = b1
  · subst h1
    cases hm : m[a1]? with
    | none => simp
    | some ch =>
      simp only [if_true, Option.map_some, Array.getElem?_modify, true_and, decide_eq_true_eq]
      by_cases h2 : a2 = b2
      · subst h2
        by_cases hb : a2 < ch.size
        · simp [hb]
        · simp [hb]
      · simp [h2]
  · simp [h1]

@[simp] theorem Mem.size_write : (m.write a f).size = m.size := by
  simp [Mem.write]

theorem Mem.getElem_write_size (m : Mem) (a : Addr) (f : Entry → Entry) (c : Nat)
    (h : c < (m.write a f).size) :
    ((m.write a f)[c]).size = (m[c]'(by simpa [Mem.write] using h)).size := by
  simp only [Mem.write, Array.getElem_modify]
  split <;> simp

@[simp] theorem Mem.inBounds_write : (m.write a f).inBounds b = m.inBounds b := by
  simp only [Mem.inBounds, Mem.write, Array.getElem?_modify]
  by_cases h : a.1 = b.1
  · rw [if_pos h]
    cases m[b.1]? <;> simp
  · rw [if_neg h]

theorem Mem.inBounds_iff (m : Mem) (a : Addr) :
    m.inBounds a = true ↔ ∃ h : a.1 < m.size, a.2 < m[a.1].size := by
  simp only [Mem.inBounds]
  by_cases h : a.1 < m.size
  · simp [h]
  · simp [h]

theorem Mem.read_push (ch : Array Entry) (h : a.1 < m.size) : Mem.read (m.push ch) a = m.read a := by
  simp only [Mem.read, Array.getElem?_push]
  rw [if_neg (Nat.ne_of_lt h)]

theorem Mem.inBounds_push (ch : Array Entry) :
    Mem.inBounds (m.push ch) a = if a.1 = m.size then decide (a.2 < ch.size) else m.inBounds a := by
  simp only [Mem.inBounds, Array.getElem?_push]
  by_cases e : a.1 = m.size
  · simp only [if_pos e]
  · simp only [if_neg e]

/-- Store through a pointer that may be `NULL`: `if (q) q->… = …;`. -/
def Mem.writeOpt (m : Mem) (o : Option Addr) (f : Entry → Entry) : Mem :=
  match o with
  | some q => m.write q f
  | none => m

@[simp] theorem Mem.size_writeOpt : (m.writeOpt o f).size = m.size := by
  cases o with
  | none => rfl
  | some q => exact Mem.size_write m q f

@[simp] theorem Mem.inBounds_writeOpt : (m.writeOpt o f).inBounds b = m.inBounds b := by
  cases o with
  | none => rfl
  | some q => exact Mem.inBounds_write m q b f

theorem Mem.read_writeOpt (ho : ∀ q, o = some q → m.inBounds q = true) :
    (m.writeOpt o f).read b = if o = some b then f (m.read b) else m.read b := by
  cases o with
  | none => rfl
  | some q =>
    simp only [Mem.writeOpt, Mem.read_write, ho q rfl, and_true, Option.some.injEq]
    split
    next e => rw [e]
    next => rfl

end Memory

/-! ## Successor and predecessor in a list -/

section Lists
variable {l : List Nat} {a d x y : Nat}

theorem nodup_reverse : l.reverse.Nodup ↔ l.Nodup :=
  (List.reverse_perm l).nodup_iff

/-- The element following the first occurrence of `x`. -/
def nextOf : List Nat → Nat → Option Nat
  | [], _ => none
  | a :: t, x => if a = x then t.head? else nextOf t x

theorem nextOf_cons (a : Nat) (t : List Nat) (x : Nat) :
    nextOf (a :: t) x = if a = x then t.head? else nextOf t x := rfl

/-- The element preceding `x` (defined by symmetry). -/
def prevOf (l : List Nat) (x : Nat) : Option Nat := nextOf l.reverse x

theorem nextOf_append_cons {l1 : List Nat} (t : List Nat) (h : a ∉ l1) :
    nextOf (l1 ++ a :: t) a = t.head? := by
  induction l1 with
  | nil => simp [nextOf]
  | cons b l1 ih =>
    simp only [List.mem_cons, not_or] at h
    simp only [List.cons_append, nextOf]
    rw [if_neg (fun e => h.1 e.symm)]
    exact ih h.2

theorem nextOf_append_singleton_self (hy : y ∉ l) :
    nextOf (l ++ [y]) y = none := by
  rw [nextOf_append_cons [] hy]; rfl

theorem nextOf_eq_some (h : nextOf l a = some d) :
    ∃ l1 l2, l = l1 ++ a :: d :: l2 := by
  induction l with
  | nil => simp [nextOf] at h
  | cons b t ih =>
    simp only [nextOf] at h
    split at h
    · subst b
      cases t with
      | nil => simp at h
      | cons c t' =>
        simp only [List.head?_cons, Option.some.injEq] at h
        subst h
        exact ⟨[], t', rfl⟩
    · obtain ⟨l1, l2, e⟩ := ih h
      exact ⟨b :: l1, l2, by simp [e]⟩

theorem nextOf_mem (h : nextOf l a = some d) : a ∈ l ∧ d ∈ l := by
  obtain ⟨l1, l2, e⟩ := nextOf_eq_some h
  subst e; simp

theorem nextOf_ne_self (hn : l.Nodup) (h : nextOf l a = some d) :
    d ≠ a := by
  obtain ⟨l1, l2, e⟩ := nextOf_eq_some h
  subst e
  intro e; subst e
  simp [List.nodup_append, List.nodup_cons] at hn

theorem prevOf_eq_some_iff (hn : l.Nodup) :
    prevOf l d = some a ↔ nextOf l a = some d := by
  have key : ∀ (l : List Nat), l.Nodup → ∀ a d, nextOf l a = some d → nextOf l.reverse d = some a := by
    intro l hn a d h
    obtain ⟨l1, l2, e⟩ := nextOf_eq_some h
    subst e
    have hd : d ∉ l2.reverse := by
      simp only [List.nodup_append, List.nodup_cons, List.mem_cons] at hn
      simp only [List.mem_reverse]
      exact hn.2.1.2.1
    have : (l1 ++ a :: d :: l2).reverse = l2.reverse ++ d :: (a :: l1.reverse) := by simp
    rw [this, nextOf_append_cons _ hd]; rfl
  constructor
  · intro h
    have := key l.reverse (nodup_reverse.2 hn) d a h
    simpa using this
  · exact key l hn a d

theorem prevOf_mem (h : prevOf l d = some a) : a ∈ l ∧ d ∈ l := by
  have := nextOf_mem h
  simpa [and_comm] using this

theorem prevOf_ne_self (hn : l.Nodup) (h : prevOf l d = some a) :
    a ≠ d :=
  nextOf_ne_self (nodup_reverse.2 hn) h

theorem nextOf_not_mem (h : x ∉ l) : nextOf l x = none := by
  cases e : nextOf l x with
  | none => rfl
  | some d => exact absurd (nextOf_mem e).1 h

theorem prevOf_not_mem {l : List Nat} {x : Nat} (h : x ∉ l) : prevOf l x = none :=
  nextOf_not_mem (by simpa using h)

theorem nextOf_getLast? (hn : l.Nodup) (h : l.getLast? = some x) :
    nextOf l x = none := by
  obtain ⟨l1, rfl⟩ := List.getLast?_eq_some_iff.1 h
  exact nextOf_append_singleton_self fun hm =>
    (List.nodup_append.1 hn).2.2 x hm x (List.mem_singleton_self _) rfl

theorem prevOf_head? (hn : l.Nodup) (h : l.head? = some x) :
    prevOf l x = none :=
  nextOf_getLast? (nodup_reverse.2 hn) (by simpa using h)

/-! ### append at the end -/

theorem nextOf_append_singleton (hn : (l ++ [y]).Nodup) (hx : x ∈ l) :
    nextOf (l ++ [y]) x = if l.getLast? = some x then some y else nextOf l x := by
  induction l with
  | nil => cases hx
  | cons a t ih =>
    obtain ⟨hat, hn'⟩ := List.nodup_cons.1 hn
    rw [List.cons_append, nextOf_cons, nextOf_cons]
    cases t with
    | nil => simp_all
    | cons b t' =>
      rw [List.getLast?_cons_cons]
      by_cases hax : a = x
      · subst hax
        have : (b :: t').getLast? ≠ some a :=
          fun e => hat (List.mem_append_left _ (List.mem_of_getLast? e))
        simp [this]
      · simp only [if_neg hax]
        exact ih hn' ((List.mem_cons.1 hx).resolve_left (Ne.symm hax))

theorem prevOf_append_singleton (hxy : x ≠ y) :
    prevOf (l ++ [y]) x = prevOf l x := by
  simp only [prevOf, List.reverse_append, List.reverse_cons, List.reverse_nil, List.nil_append,
    List.cons_append, nextOf]
  rw [if_neg (fun e => hxy e.symm)]

theorem prevOf_append_singleton_self (l : List Nat) (y : Nat) :
    prevOf (l ++ [y]) y = l.getLast? := by
  simp [prevOf, nextOf]

/-! ### erase -/

theorem nextOf_erase (hn : l.Nodup) (hxd : x ≠ d) :
    nextOf (l.erase d) x = if nextOf l x = some d then nextOf l d else nextOf l x := by
  induction l with
  | nil => rfl
  | cons a t ih =>
    obtain ⟨hat, hnt⟩ := List.nodup_cons.1 hn
    by_cases had : a = d
    · subst had
      have : nextOf t x ≠ some a := fun e => hat (nextOf_mem e).2
      simp [nextOf, Ne.symm hxd, this]
    · rw [List.erase_cons_tail (by simpa using had), nextOf_cons, nextOf_cons, nextOf_cons,
        if_neg had]
      by_cases hax : a = x
      · subst hax
        cases t with
        | nil => simp
        | cons b t' => by_cases hbd : b = d <;> simp [hbd, nextOf]
      · simp only [if_neg hax]; exact ih hnt

theorem reverse_erase_of_nodup (hn : l.Nodup) (d : Nat) :
    (l.erase d).reverse = l.reverse.erase d := by
  rw [hn.erase_eq_filter, (nodup_reverse.2 hn).erase_eq_filter, List.filter_reverse]

theorem prevOf_erase (hn : l.Nodup) (hxd : x ≠ d) :
    prevOf (l.erase d) x = if prevOf l x = some d then prevOf l d else prevOf l x := by
  simp only [prevOf, reverse_erase_of_nodup hn]
  exact nextOf_erase (nodup_reverse.2 hn) hxd

theorem head?_erase (hn : l.Nodup) (d : Nat) :
    (l.erase d).head? = if l.head? = some d then nextOf l d else l.head? := by
  cases l with
  | nil => simp
  | cons a t =>
    by_cases had : a = d
    · subst had; simp [nextOf]
    · have e1 : (a :: t).erase d = a :: t.erase d := by
        rw [List.erase_cons_tail]; simpa using had
      simp [e1, had]

theorem getLast?_erase (hn : l.Nodup) (d : Nat) :
    (l.erase d).getLast? = if l.getLast? = some d then prevOf l d else l.getLast? := by
  have := head?_erase (nodup_reverse.2 hn) d
  rw [← reverse_erase_of_nodup hn] at this
  simpa [prevOf] using this

end Lists

/-! ## State-level access lemmas -/

theorem State.rd_wr (s : State) (a b : Addr) (f : Entry → Entry) :
    (s.wr a f).rd b = if a = b ∧ s.chunks.inBounds a = true then f (s.rd a) else s.rd b := by
  simp [State.rd, State.wr, Mem.read_write]

theorem State.chk_of_inBounds {s : State} {a : Addr} (h : s.chunks.inBounds a = true) :
    s.chk a = s := by
  simp [State.chk, h]

@[simp] theorem State.inBounds_wr (s : State) (a b : Addr) (f : Entry → Entry) :
    (s.wr a f).chunks.inBounds b = s.chunks.inBounds b := by
  simp [State.wr, Mem.inBounds_write]

section proj
variable (s : State) (a : Addr) (f : Entry → Entry)
@[simp] theorem State.wr_emptyIndex : (s.wr a f).emptyIndex = s.emptyIndex := rfl
@[simp] theorem State.wr_capacity : (s.wr a f).capacity = s.capacity := rfl
@[simp] theorem State.wr_size : (s.wr a f).size = s.size := rfl
@[simp] theorem State.wr_first : (s.wr a f).first = s.first := rfl
@[simp] theorem State.wr_last : (s.wr a f).last = s.last := rfl
@[simp] theorem State.wr_freeSlots : (s.wr a f).freeSlots = s.freeSlots := rfl
@[simp] theorem State.wr_assertFailed : (s.wr a f).assertFailed = s.assertFailed := rfl
@[simp] theorem State.wr_oob : (s.wr a f).oob = s.oob := rfl
end proj

/-! ## The invariant -/

/-- Counter / slot-bookkeeping part of the invariant; `spec` is the list of live slots. -/
structure InvC (p : Params) (s : State) (spec : List Nat) : Prop where
  noAssert : s.assertFailed = false
  noOob : s.oob = false
  bounds : ∀ a : Addr, s.chunks.inBounds a = true ↔ a.1 < s.chunks.size ∧ a.2 < p.chunkLen
  cap : s.capacity = s.chunks.size * p.chunkLen
  size : s.size = spec.length
  le : s.emptyIndex ≤ s.capacity
  cnt : s.size + s.freeSlots.toList.length = s.emptyIndex
  nodup : (spec ++ s.freeSlots.toList).Nodup
  lt : ∀ x, x ∈ spec ++ s.freeSlots.toList → x < s.emptyIndex

/-- Link part of the invariant: `first/last` and the `prev/next/mySlot` of every live cell. -/
structure InvL (p : Params) (s : State) (spec : List Nat) : Prop where
  first : s.first = spec.head?.map (addr p)
  last : s.last = spec.getLast?.map (addr p)
  cell : ∀ x, x ∈ spec →
    s.rd (addr p x) = ⟨x, (prevOf spec x).map (addr p), (nextOf spec x).map (addr p)⟩

structure Inv (p : Params) (s : State) (spec : List Nat) : Prop where
  c : InvC p s spec
  l : InvL p s spec

variable {p : Params} {s : State} {spec : List Nat}

theorem InvC.inBounds_addr (hp : p.chunkLen = 2 ^ p.chunkSh) (h : InvC p s spec) {x : Nat}
    (hx : x < s.capacity) :
    s.chunks.inBounds (addr p x) = true := by
  rw [h.bounds]
  exact ⟨addr_fst_lt hp (by rw [← h.cap]; exact hx), addr_snd_lt hp x⟩

theorem InvC.spec_nodup (h : InvC p s spec) : spec.Nodup := (List.nodup_append.1 h.nodup).1

theorem InvC.lt_cap (h : InvC p s spec) {x : Nat} (hx : x ∈ spec) : x < s.capacity :=
  Nat.lt_of_lt_of_le (h.lt x (List.mem_append_left _ hx)) h.le

theorem InvC.inBounds (hp : p.chunkLen = 2 ^ p.chunkSh) (h : InvC p s spec) {x : Nat}
    (hx : x ∈ spec) : s.chunks.inBounds (addr p x) = true :=
  h.inBounds_addr hp (h.lt_cap hx)

/-- `InvC` reads neither `first`/`last` nor the contents of the cells, only which cells exist. -/
theorem InvC.relink (h : InvC p s spec) (f l : Option Addr) {m : Mem}
    (hb : ∀ b, m.inBounds b = s.chunks.inBounds b) (hsz : m.size = s.chunks.size) :
    InvC p { s with first := f, last := l, chunks := m } spec :=
  ⟨h.noAssert, h.noOob, fun b => by simpa only [hb, hsz] using h.bounds b,
    by simpa only [hsz] using h.cap, h.size, h.le, h.cnt, h.nodup, h.lt⟩

/-! ### Constructor and `expandCapacity` -/

theorem InvC.expand (h : InvC p s spec) : InvC p (expandCapacity p s) spec := by
  refine ⟨h.noAssert, h.noOob, ?_, ?_, h.size, ?_, h.cnt, h.nodup, h.lt⟩
  · intro a
    simp only [expandCapacity, Mem.inBounds_push, Array.size_push, Array.size_replicate]
    by_cases e : a.1 = s.chunks.size
    · simp [e]
    · rw [if_neg e, h.bounds]
      exact and_congr_left' ⟨Nat.lt_succ_of_lt, fun h1 => Nat.lt_of_le_of_ne (Nat.le_of_lt_succ h1) e⟩
  · simp only [expandCapacity, Array.size_push, Nat.succ_mul, h.cap]
  · exact Nat.le_add_right_of_le h.le

theorem InvL.expand (hp : p.chunkLen = 2 ^ p.chunkSh) (hc : InvC p s spec) (h : InvL p s spec) :
    InvL p (expandCapacity p s) spec := by
  refine ⟨h.first, h.last, ?_⟩
  intro x hx
  rw [← h.cell x hx]
  simp only [State.rd, expandCapacity]
  apply Mem.read_push
  exact addr_fst_lt hp (by rw [← hc.cap]; exact hc.lt_cap hx)

theorem Inv.expand (hp : p.chunkLen = 2 ^ p.chunkSh) (h : Inv p s spec) :
    Inv p (expandCapacity p s) spec :=
  ⟨h.c.expand, h.l.expand hp h.c⟩

theorem Inv.init (hp : p.chunkLen = 2 ^ p.chunkSh) : Inv p (init p) [] := by
  apply Inv.expand hp
  refine ⟨⟨rfl, rfl, ?_, ?_, rfl, Nat.le_refl _, rfl, by simp, by simp⟩, ⟨rfl, rfl, by simp⟩⟩
  · intro a; simp [Mem.inBounds]
  · simp

/-! ### `newEntry` -/

theorem Inv.grow (hp : p.chunkLen = 2 ^ p.chunkSh) (h : Inv p s spec) :
    Inv p (newEntryGrow p s) spec ∧ (newEntryGrow p s).size < (newEntryGrow p s).capacity := by
  have hle : s.size ≤ s.capacity := Nat.le_trans (Nat.le.intro h.c.cnt) h.c.le
  unfold newEntryGrow
  split
  next e =>
    -- full, so nothing is free and the mirrored assert holds
    have hemp : s.freeSlots.isEmpty = true :=
      (FreeList.isEmpty_iff _).2 (List.eq_nil_of_length_eq_zero (by have := h.c.cnt; have := h.c.le; omega))
    simp only [hemp, State.assert, if_true]
    exact ⟨h.expand hp, e ▸ Nat.lt_add_of_pos_right (chunkLen_pos hp)⟩
  next e => exact ⟨h, Nat.lt_of_le_of_ne hle e⟩

/-- The slot handed out joins `spec`; cells and `first`/`last` are not touched yet. -/
theorem Inv.slot (h : Inv p s spec) (hlt : s.size < s.capacity) :
    InvC p { (newEntrySlot s).1 with size := (newEntrySlot s).1.size + 1 }
        (spec ++ [(newEntrySlot s).2]) ∧
      InvL p { (newEntrySlot s).1 with size := (newEntrySlot s).1.size + 1 } spec := by
  have hcnt := h.c.cnt
  have hle := h.c.le
  have hsz := h.c.size
  unfold newEntrySlot
  split
  next e =>
    -- a fresh slot, above every slot handed out so far
    have hperm : (spec ++ [s.emptyIndex] ++ s.freeSlots.toList).Perm
        (s.emptyIndex :: (spec ++ s.freeSlots.toList)) := by
      rw [List.append_assoc]; exact List.perm_middle
    refine ⟨⟨h.c.noAssert, h.c.noOob, h.c.bounds, h.c.cap, ?_, ?_, ?_, ?_, ?_⟩, h.l.1, h.l.2, h.l.3⟩
    · simp [hsz]
    · exact e
    · simp only; rw [Nat.add_right_comm, hcnt]
    · exact hperm.nodup_iff.2
        (List.nodup_cons.2 ⟨fun hm => Nat.lt_irrefl _ (h.c.lt _ hm), h.c.nodup⟩)
    · intro x hx
      rcases List.mem_cons.1 (hperm.mem_iff.1 hx) with rfl | hx
      · exact Nat.lt_succ_self _
      · exact Nat.lt_succ_of_lt (h.c.lt x hx)
  next e =>
    -- a recycled slot: the front of the free list becomes the end of `spec`
    have hpop := FreeList.popFront?_eq s.freeSlots
    split
    next hq =>
      -- `size < capacity ≤ emptyIndex = size + #free`: something is free
      rw [hq] at hpop; rw [hpop] at hcnt
      exact absurd (hcnt ▸ hlt) e
    next f rest hq =>
      rw [hq] at hpop
      have e : spec ++ [f] ++ rest.toList = spec ++ s.freeSlots.toList := by simp [hpop]
      rw [hpop, List.length_cons] at hcnt
      refine ⟨⟨h.c.noAssert, h.c.noOob, h.c.bounds, h.c.cap, by simp [hsz], hle, ?_, ?_, ?_⟩,
        h.l.1, h.l.2, h.l.3⟩
      · simp only; rw [Nat.add_right_comm]; exact hcnt
      · show (spec ++ [f] ++ rest.toList).Nodup; rw [e]; exact h.c.nodup
      · show ∀ x, x ∈ spec ++ [f] ++ rest.toList → _; rw [e]; exact h.c.lt

theorem newEntryLink_eq (p : Params) (s : State) (slot : Nat)
    (ha : s.chunks.inBounds (addr p slot) = true)
    (hl : ∀ l, s.last = some l → s.chunks.inBounds l = true) :
    newEntryLink p s slot =
      { s with
        first := if s.first.isNone then some (addr p slot) else s.first
        last := some (addr p slot)
        chunks := (((s.chunks.write (addr p slot) fun e => { e with prev := s.last }).writeOpt s.last
          fun e => { e with next := some (addr p slot) }).write (addr p slot)
          fun e => { e with next := none }).write (addr p slot) fun e => { e with mySlot := slot } } := by
  unfold newEntryLink
  simp only [State.chk_of_inBounds ha, State.wr_last]
  cases hlast : s.last with
  | none => simp only [State.wr]; rfl
  | some l =>
    have hlb : (s.chunks.write (addr p slot) fun e => { e with prev := some l }).inBounds l = true := by
      rw [Mem.inBounds_write]; exact hl l hlast
    simp only [State.chk, State.wr, hlb, if_true]; rfl

theorem Inv.link (hp : p.chunkLen = 2 ^ p.chunkSh) {slot : Nat} (hc : InvC p s (spec ++ [slot]))
    (hl : InvL p s spec) :
    Inv p (newEntryLink p s slot) (spec ++ [slot]) := by
  have hnd : (spec ++ [slot]).Nodup := hc.spec_nodup
  have hslot : slot ∉ spec := fun hm =>
    (List.nodup_append.1 hnd).2.2 slot hm slot (List.mem_singleton_self _) rfl
  have hlb : ∀ l, s.last = some l → s.chunks.inBounds l = true := by
    intro l e
    rw [hl.last] at e
    obtain ⟨y, hy, rfl⟩ := Option.map_eq_some_iff.1 e
    exact hc.inBounds hp (List.mem_append_left _ (List.mem_of_getLast? hy))
  have ha := hc.inBounds hp (x := slot) (by simp)
  rw [newEntryLink_eq p s slot ha hlb]
  refine ⟨hc.relink _ _ (by simp) (by simp), ?_, ?_, ?_⟩
  · show (if s.first.isNone then _ else _) = _
    rw [hl.first]; cases spec <;> rfl
  · show some (addr p slot) = _
    simp
  · intro x hx
    show Mem.read _ (addr p x) = _
    have hlb' : ∀ q, s.last = some q →
        (s.chunks.write (addr p slot) fun e => { e with prev := s.last }).inBounds q = true := by
      intro q hq; rw [Mem.inBounds_write]; exact hlb q hq
    simp only [Mem.read_write, Mem.read_writeOpt _ _ _ _ hlb', Mem.inBounds_write,
      Mem.inBounds_writeOpt, ha, and_true]
    rcases List.mem_append.1 hx with hx | hx
    · -- an old cell: only the `next` of the old last one changes
      have hxs : x ≠ slot := fun e => hslot (e ▸ hx)
      have hne : ¬ addr p slot = addr p x := fun e => hxs ((addr_inj hp).1 e).symm
      have hcell := hl.cell x hx
      unfold State.rd at hcell
      simp only [hne, if_false, hcell, hl.last, map_addr_eq_some hp,
        prevOf_append_singleton hxs, nextOf_append_singleton hnd hx]
      by_cases c : spec.getLast? = some x <;> simp only [c, if_true, if_false, Option.map_some]
    · -- the new cell
      cases List.mem_singleton.1 hx
      have hla : ¬ spec.getLast? = some slot := fun e => hslot (List.mem_of_getLast? e)
      simp only [if_true, hl.last, map_addr_eq_some hp, if_neg hla, prevOf_append_singleton_self,
        nextOf_append_singleton_self hslot, Option.map_none]

theorem Inv.newEntry {p : Params} (hp : p.chunkLen = 2 ^ p.chunkSh) {s : State} {spec : List Nat}
    (h : Inv p s spec) : Inv p (newEntry p s).1 (spec ++ [(newEntry p s).2]) := by
  obtain ⟨hg, hlt⟩ := h.grow hp
  obtain ⟨hc, hl⟩ := hg.slot hlt
  unfold Sympler.SmartList.newEntry
  exact Inv.link hp hc hl

/-! ### `deleteEntry` -/

/-- The bookkeeping of `deleteEntry`: `d` moves from `spec` to the end of the free list. -/
theorem InvC.free (h : InvC p s spec) {d : Nat} (hd : d ∈ spec) :
    InvC p { s with freeSlots := s.freeSlots.pushBack d, size := s.size - 1 } (spec.erase d) := by
  have hperm : (spec.erase d ++ (s.freeSlots.toList ++ [d])).Perm (spec ++ s.freeSlots.toList) := by
    rw [← List.append_assoc]
    exact (List.perm_append_singleton _ _).trans ((List.perm_cons_erase hd).append_right _).symm
  have hpos : 0 < s.size := by rw [h.size]; exact List.length_pos_of_mem hd
  refine ⟨h.noAssert, h.noOob, h.bounds, h.cap, ?_, h.le, ?_, ?_, ?_⟩ <;>
    simp only [FreeList.toList_pushBack]
  · rw [List.length_erase_of_mem hd, h.size]
  · rw [List.length_append, List.length_singleton, ← h.cnt]; omega
  · exact hperm.nodup_iff.2 h.nodup
  · exact fun x hx => h.lt x (hperm.mem_iff.1 hx)

theorem deleteEntryHead_eq (s : State) (a f l : Addr) (hsz : 0 < s.size)
    (hf : s.first = some f) (hfb : s.chunks.inBounds f = true)
    (hl : s.last = some l) (hlb : s.chunks.inBounds l = true) :
    deleteEntryHead s a =
      { s with
        first := if (s.rd f).mySlot = (s.rd a).mySlot then (s.rd f).next else some f
        last := if (s.rd l).mySlot = (s.rd a).mySlot then (s.rd l).prev else some l
        freeSlots := s.freeSlots.pushBack (s.rd a).mySlot
        size := s.size - 1 } := by
  unfold deleteEntryHead
  have hsz' : decide (s.size > 0) = true := by simpa using hsz
  simp only [State.assert, hsz', hf, hl, Option.isSome_some, if_true]
  simp only [State.chk_of_inBounds hfb]
  have h1 : ∀ t : State, t.chunks = s.chunks → t.chk l = t := by
    intro t e; apply State.chk_of_inBounds; rw [e]; exact hlb
  simp only [h1, hl, hf, State.rd]
  rfl

theorem deleteEntryUnlink_eq (s : State) (a : Addr)
    (hpb : ∀ q, (s.rd a).prev = some q → s.chunks.inBounds q = true ∧ q ≠ a)
    (hnb : ∀ q, (s.rd a).next = some q → s.chunks.inBounds q = true) :
    deleteEntryUnlink s a =
      { s with
        chunks := (s.chunks.writeOpt (s.rd a).prev fun e => { e with next := (s.rd a).next }).writeOpt
          (s.rd a).next fun e => { e with prev := (s.rd a).prev } } := by
  unfold deleteEntryUnlink
  cases hP : (s.rd a).prev with
  | none =>
    simp only [hP]
    cases hN : (s.rd a).next with
    | none => rfl
    | some n => simp only [State.chk_of_inBounds (hnb n hN)]; rfl
  | some q =>
    obtain ⟨hq, hqa⟩ := hpb q hP
    -- the first store is not to `*a`: the second block reads the same `entry.next`, `entry.prev`
    have hrd : ((s.chk q).wr q fun e => { e with next := (s.rd a).next }).rd a = s.rd a := by
      rw [State.chk_of_inBounds hq, State.rd_wr, if_neg (fun e => hqa e.1)]
    simp only [hrd, hP]
    cases hN : (s.rd a).next with
    | none => simp only [State.chk_of_inBounds hq]; rfl
    | some n =>
      have hn : (s.wr q fun e => { e with next := some n }).chunks.inBounds n = true := by
        simpa using hnb n hN
      simp only [State.chk_of_inBounds hq, State.chk_of_inBounds hn]; rfl

theorem Inv.deleteEntry {p : Params} (hp : p.chunkLen = 2 ^ p.chunkSh) {s : State}
    {spec : List Nat} (h : Inv p s spec) {d : Nat} (hd : d ∈ spec) :
    Inv p (deleteEntry p s d) (spec.erase d) := by
  have hnd := h.c.spec_nodup
  have hib : ∀ x, x ∈ spec → s.chunks.inBounds (addr p x) = true := fun x hx => h.c.inBounds hp hx
  have hsz : 0 < s.size := by rw [h.c.size]; exact List.length_pos_of_mem hd
  have hne : spec ≠ [] := List.ne_nil_of_mem hd
  obtain ⟨x0, hH⟩ : ∃ x0, spec.head? = some x0 := ⟨_, List.head?_eq_some_head hne⟩
  obtain ⟨xl, hL⟩ : ∃ xl, spec.getLast? = some xl := ⟨_, List.getLast?_eq_some_getLast hne⟩
  have hx0 : x0 ∈ spec := List.mem_of_head? hH
  have hxl : xl ∈ spec := List.mem_of_getLast? hL
  have hf : s.first = some (addr p x0) := by rw [h.l.first, hH]; rfl
  have hl : s.last = some (addr p xl) := by rw [h.l.last, hL]; rfl
  have hcell : ∀ x, x ∈ spec → s.chunks.read (addr p x) =
      ⟨x, (prevOf spec x).map (addr p), (nextOf spec x).map (addr p)⟩ := h.l.cell
  -- the neighbours of `d` are live cells other than `d`
  have hpb : ∀ q, (prevOf spec d).map (addr p) = some q →
      s.chunks.inBounds q = true ∧ q ≠ addr p d := by
    intro q hq
    obtain ⟨y, hy, rfl⟩ := Option.map_eq_some_iff.1 hq
    exact ⟨hib y (prevOf_mem hy).1, fun e => prevOf_ne_self hnd hy ((addr_inj hp).1 e)⟩
  have hnb : ∀ q, (nextOf spec d).map (addr p) = some q → s.chunks.inBounds q = true := by
    intro q hq
    obtain ⟨y, hy, rfl⟩ := Option.map_eq_some_iff.1 hq
    exact hib y (nextOf_mem hy).2
  unfold Sympler.SmartList.deleteEntry
  simp only [State.chk_of_inBounds (hib d hd)]
  rw [deleteEntryHead_eq s _ _ _ hsz hf (hib x0 hx0) hl (hib xl hxl), deleteEntryUnlink_eq]
  case hpb => show ∀ q, (s.chunks.read (addr p d)).prev = some q → _; rw [hcell d hd]; exact hpb
  case hnb => show ∀ q, (s.chunks.read (addr p d)).next = some q → _; rw [hcell d hd]; exact hnb
  simp only [State.rd, hcell d hd, hcell x0 hx0, hcell xl hxl]
  refine ⟨(h.c.free hd).relink _ _ (by simp) (by simp), ?_, ?_, ?_⟩
  · show (if x0 = d then _ else _) = _
    rw [head?_erase hnd, hH]
    by_cases e : x0 = d
    · subst e; simp
    · simp [e]
  · show (if xl = d then _ else _) = _
    rw [getLast?_erase hnd, hL]
    by_cases e : xl = d
    · subst e; simp
    · simp [e]
  · intro x hx
    obtain ⟨hxd, hxs⟩ := (hnd.mem_erase_iff).1 hx
    show Mem.read _ (addr p x) = _
    rw [Mem.read_writeOpt, Mem.read_writeOpt]
    · -- `x` precedes `d` iff `d` follows `x`, and the other way round
      simp only [hcell x hxs, map_addr_eq_some hp, prevOf_erase hnd hxd, nextOf_erase hnd hxd,
        prevOf_eq_some_iff hnd (a := x), ← prevOf_eq_some_iff hnd (d := x)]
      by_cases c1 : nextOf spec x = some d <;> by_cases c2 : prevOf spec x = some d <;>
        simp only [c1, c2, if_true, if_false]
    · exact fun q hq => (hpb q hq).1
    · exact fun q hq => by rw [Mem.inBounds_writeOpt]; exact hnb q hq


theorem Inv.clear (h : Inv p s spec) : Inv p (clear s) [] := by
  refine ⟨⟨h.c.noAssert, h.c.noOob, h.c.bounds, h.c.cap, rfl, Nat.zero_le _, rfl, ?_, ?_⟩,
    ⟨rfl, rfl, ?_⟩⟩
  · simp [Sympler.SmartList.clear]
  · simp [Sympler.SmartList.clear]
  · simp

/-! ## Iteration -/

/-- Walking a successor field that follows `nextOf l` enumerates `l` (from any position, with any
fuel that is at least the remaining length — so the walk ends at `NULL`, not by running dry). -/
theorem walk_eq {succ : Entry → Option Addr} {l : List Nat} (hnd : l.Nodup)
    (hcell : ∀ x, x ∈ l → (s.rd (addr p x)).mySlot = x ∧
      succ (s.rd (addr p x)) = (nextOf l x).map (addr p)) :
    ∀ (l2 l1 : List Nat), l = l1 ++ l2 → ∀ fuel, l2.length ≤ fuel →
      walk s succ fuel (l2.head?.map (addr p)) = l2 := by
  intro l2
  induction l2 with
  | nil =>
    intro l1 _ fuel _
    cases fuel <;> simp [walk]
  | cons x t ih =>
    intro l1 e fuel hf
    cases fuel with
    | zero => simp at hf
    | succ n =>
      have hx : x ∈ l := by rw [e]; simp
      have hx1 : x ∉ l1 := by
        intro hm
        rw [e] at hnd
        exact (List.nodup_append.1 hnd).2.2 x hm x (by simp) rfl
      obtain ⟨c1, c2⟩ := hcell x hx
      have hn : nextOf l x = t.head? := by rw [e]; exact nextOf_append_cons t hx1
      simp only [List.head?_cons, Option.map_some, walk, c1, c2, hn]
      rw [ih (l1 ++ [x]) (by simp [e]) n (by simpa using hf)]

theorem InvL.forwardFuel_eq (h : InvL p s spec) (hnd : spec.Nodup) (fuel : Nat)
    (hf : spec.length ≤ fuel) : forwardFuel s fuel = spec := by
  unfold forwardFuel
  rw [h.first]
  refine walk_eq hnd (fun x hx => ?_) spec [] rfl fuel hf
  rw [h.cell x hx]; exact ⟨rfl, rfl⟩

theorem InvL.backwardFuel_eq (h : InvL p s spec) (hnd : spec.Nodup) (fuel : Nat)
    (hf : spec.length ≤ fuel) : backwardFuel s fuel = spec.reverse := by
  unfold backwardFuel
  rw [h.last, ← List.head?_reverse]
  refine walk_eq (nodup_reverse.2 hnd) (fun x hx => ?_) spec.reverse [] rfl fuel (by simpa using hf)
  rw [h.cell x (by simpa using hx)]; exact ⟨rfl, rfl⟩

theorem Inv.size_le_capacity (h : Inv p s spec) : spec.length ≤ s.capacity + 1 :=
  h.c.size ▸ Nat.le_succ_of_le (Nat.le_trans (Nat.le.intro h.c.cnt) h.c.le)

theorem Inv.forward_eq (h : Inv p s spec) : forward s = spec :=
  h.l.forwardFuel_eq h.c.spec_nodup _ h.size_le_capacity

theorem Inv.backward_eq (h : Inv p s spec) : backward s = spec.reverse :=
  h.l.backwardFuel_eq h.c.spec_nodup _ h.size_le_capacity

/-! ## Steps and runs -/

theorem Inv.stepCore (hp : p.chunkLen = 2 ^ p.chunkSh) (h : Inv p s spec) (op : Op) :
    Inv p (stepCore p s op).1 (specStep spec op (stepCore p s op).2) := by
  cases op with
  | new => exact h.newEntry hp
  | clear => exact h.clear
  | del k =>
    cases hk : spec[k % spec.length]? with
    | none => simpa only [Sympler.SmartList.stepCore, specStep, h.forward_eq, hk] using h
    | some d =>
      simpa only [Sympler.SmartList.stepCore, specStep, h.forward_eq, hk]
        using h.deleteEntry hp (List.mem_of_getElem? hk)

theorem Inv.foldl (hp : p.chunkLen = 2 ^ p.chunkSh) (ops : List Op) :
    ∀ st : State × List Nat, Inv p st.1 st.2 →
      Inv p (ops.foldl (runStep p) st).1 (ops.foldl (runStep p) st).2 := by
  induction ops with
  | nil => intro st h; exact h
  | cons op ops ih =>
    intro st h
    simp only [List.foldl_cons]
    apply ih
    exact h.stepCore hp op

theorem Inv.run (hp : p.chunkLen = 2 ^ p.chunkSh) (ops : List Op) :
    Inv p (run p ops).1 (run p ops).2 :=
  Inv.foldl hp ops _ (Inv.init hp)

theorem step_fst (p : Params) (s : State) (op : Op) : (step p s op).1 = (stepCore p s op).1 := rfl

theorem run_append_singleton (p : Params) (ops : List Op) (op : Op) :
    run p (ops ++ [op]) = runStep p (run p ops) op := by
  simp [Sympler.SmartList.run, List.foldl_append]

end Sympler.SmartList
