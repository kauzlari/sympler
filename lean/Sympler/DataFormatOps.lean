import Sympler.DataFormat
/-!
# What the operations of the `DataFormat` model do when they succeed (C14)

One statement per accessor and per operation: the checks it passed and the state it returns.
Core Lean only.

A successful chain of `match x with | .error e => .error e | .ok a => …` is taken apart link by
link with the `*_bind_ok` lemmas.  They are stated for the accessor (or the type) of the scrutinee
and not for `Except` in general: Lean compiles each `match` of the model to a matcher for its
types, and a statement about a `match` over an arbitrary type does not unify with it.
-/
namespace Sympler.DataFormat

variable {al : Option Nat} {nc : NumCodec} {s s' : State} {d i : Nat}
  {dat : Data} {fid : Nat} {f : Format} {b : Block} {l : AttrAt} {v : Val}

/-! ## Accessors -/

theorem getData_ok  :
    s.getData d = .ok dat ↔ s.datas[d]? = some (some dat) := by
  unfold State.getData
  split
  · rename_i x hx; rw [hx]; simp
  · rename_i hne
    exact ⟨fun h => (nomatch h), fun h => absurd h (hne dat)⟩

theorem getFmt_ok {f : Nat} {x : Format} : s.getFmt f = .ok x ↔ s.fmts[f]? = some x := by
  unfold State.getFmt
  cases s.fmts[f]? with
  | none => exact ⟨fun h => (nomatch h), fun h => (nomatch h)⟩
  | some y => exact ⟨fun h => congrArg some (Except.ok.inj h), fun h => congrArg Except.ok (Option.some.inj h)⟩

theorem Heap.get_eq_some {h : Heap} {a : Nat} {c : Cell} : h.get a = some c ↔ h[a]? = some (some c) := by
  unfold Heap.get
  split
  · rename_i c' hc; rw [hc]; simp
  · rename_i hne
    exact ⟨fun h' => (nomatch h'), fun h' => absurd h' (hne c)⟩

theorem Val.spAddr_eq_some {a : Nat} : v.spAddr = some a ↔ v = Val.sp (some a) := by
  cases v with
  | sp p => exact ⟨fun h => congrArg Val.sp h, fun h => Val.sp.inj h⟩
  | _ => exact ⟨(fun h => nomatch h), (fun h => nomatch h)⟩

/-! ## Links of a successful chain -/

theorem ite_error_ok {β : Type} {c : Prop} [Decidable c] {e : Err} {x : Except Err β} {r : β}
    (h : (if c then Except.error e else x) = .ok r) : ¬ c ∧ x = .ok r := by
  by_cases hc : c
  · rw [if_pos hc] at h; cases h
  · rw [if_neg hc] at h; exact ⟨hc, h⟩

theorem getData_bind_ok {β : Type} {f : Data → Except Err β} {r : β}
    (h : (match s.getData d with | .error e => .error e | .ok x => f x) = Except.ok r) :
    ∃ dat, s.datas[d]? = some (some dat) ∧ f dat = .ok r := by
  cases hx : s.getData d with
  | error e => rw [hx] at h; cases h
  | ok dat => rw [hx] at h; exact ⟨dat, getData_ok.1 hx, h⟩

theorem getFmt_bind_ok {β : Type} {f : Format → Except Err β} {r : β}
    (h : (match s.getFmt i with | .error e => .error e | .ok x => f x) = Except.ok r) :
    ∃ x, s.fmts[i]? = some x ∧ f x = .ok r := by
  cases hx : s.getFmt i with
  | error e => rw [hx] at h; cases h
  | ok x => rw [hx] at h; exact ⟨x, getFmt_ok.1 hx, h⟩

theorem fmtOf_ok (h : s.fmtOf dat = .ok (fid, f)) :
    dat.fmt = some fid ∧ s.fmts[fid]? = some f := by
  unfold State.fmtOf at h
  cases hfd : dat.fmt with
  | none => rw [hfd] at h; cases h
  | some fd =>
    rw [hfd] at h
    obtain ⟨x, hx, h⟩ := getFmt_bind_ok h
    cases h; exact ⟨rfl, hx⟩

theorem fmtOf_bind_ok {β : Type} {f : Nat → Format → Except Err β} {r : β}
    (h : (match s.fmtOf dat with | .error e => .error e | .ok (fid, x) => f fid x) = Except.ok r) :
    ∃ fid x, dat.fmt = some fid ∧ s.fmts[fid]? = some x ∧ f fid x = .ok r := by
  cases hx : s.fmtOf dat with
  | error e => rw [hx] at h; cases h
  | ok p => rw [hx] at h; exact ⟨p.1, p.2, (fmtOf_ok hx).1, (fmtOf_ok hx).2, h⟩

theorem block_bind_ok {β : Type} {o : Option Block} {e : Err} {f : Block → Except Err β} {r : β}
    (h : (match o with | none => .error e | some b => f b) = Except.ok r) : ∃ b, o = some b ∧ f b = .ok r := by
  cases o with
  | none => cases h
  | some b => exact ⟨b, rfl, h⟩

theorem heap_bind_ok {β : Type} {x : Except Err Heap} {f : Heap → Except Err β} {r : β}
    (h : (match x with | .error e => .error e | .ok a => f a) = Except.ok r) : ∃ a, x = .ok a ∧ f a = .ok r := by
  cases x with
  | error e => cases h
  | ok a => exact ⟨a, rfl, h⟩

theorem state_bind_ok {β : Type} {x : Except Err State} {f : State → Except Err β} {r : β}
    (h : (match x with | .error e => .error e | .ok a => f a) = Except.ok r) : ∃ a, x = .ok a ∧ f a = .ok r := by
  cases x with
  | error e => cases h
  | ok a => exact ⟨a, rfl, h⟩

theorem attrAt_ok (h : s.attrAt d i = .ok l) :
    s.datas[d]? = some (some l.dat) ∧ l.dat.fmt = some l.fid ∧ s.fmts[l.fid]? = some l.fmt ∧
      l.fmt.byIndex[i]? = some l.attr := by
  unfold State.attrAt at h
  obtain ⟨dat, hdat, h⟩ := getData_bind_ok h
  cases hfid : dat.fmt with
  | none => rw [hfid] at h; cases h
  | some fid =>
    rw [hfid] at h
    obtain ⟨f, hf, h⟩ := getFmt_bind_ok h
    cases ha : f.byIndex[i]? with
    | none => rw [ha] at h; cases h
    | some a => rw [ha] at h; cases h; exact ⟨hdat, hfid, hf, ha⟩

theorem attrAt_bind_ok {β : Type} {f : AttrAt → Except Err β} {r : β}
    (h : (match s.attrAt d i with | .error e => .error e | .ok l => f l) = Except.ok r) :
    ∃ l, s.attrAt d i = .ok l ∧ f l = .ok r := by
  cases hx : s.attrAt d i with
  | error e => rw [hx] at h; cases h
  | ok l => rw [hx] at h; exact ⟨l, rfl, h⟩

theorem slot_ok (h : l.slot i = .ok (b, v)) :
    l.dat.block = some b ∧ b.vals[i]? = some v ∧ l.attr.misaligned = false := by
  unfold AttrAt.slot at h
  obtain ⟨b', hb, h⟩ := block_bind_ok h
  cases hv : b'.vals[i]? with
  | none => rw [hv] at h; cases h
  | some v' =>
    rw [hv] at h
    obtain ⟨hm, h⟩ := ite_error_ok h
    cases h; exact ⟨hb, hv, Bool.of_not_eq_true hm⟩

theorem allocSp_ok {h : Heap} {r : Option Block × Heap} (ha : f.allocSp h = .ok r) :
    f.alloc h true = r :=
  Except.ok.inj (ite_error_ok ha).2

theorem Format.addAttribute_ok_cases {f' : Format} {n sym : String} {t : DType}
    {p : Bool} {a : Attr} (h : f.addAttribute al n t p sym = .ok (a, f')) :
    (f.find n = none ∧ a = ⟨n, f.byIndex.length, f.size, t, p, if sym == "" then n else sym⟩ ∧
      f' = ⟨f.byIndex ++ [a], f.byName ++ [a], f.size + csize al t⟩) ∨
    (f.find n = some a ∧ a.dtype = t ∧ f' = f) := by
  unfold Format.addAttribute at h
  cases hfind : f.find n with
  | none => rw [hfind] at h; cases h; exact Or.inl ⟨rfl, rfl, rfl⟩
  | some b =>
    rw [hfind] at h
    obtain ⟨hne, h⟩ := ite_error_ok h
    cases h; exact Or.inr ⟨rfl, Decidable.not_not.1 hne, rfl⟩

theorem Format.setPersistent_of_none (h : f.byIndex[i]? = none) (p : Bool) :
    f.setPersistent i p = f := by
  unfold Format.setPersistent; rw [h]

theorem Format.setPersistent_of_some {a : Attr} (h : f.byIndex[i]? = some a) (p : Bool) :
    f.setPersistent i p = { f with byIndex := f.byIndex.set i { a with persistent := p } } := by
  unfold Format.setPersistent; rw [h]

/-! ## Copy constructor, `operator=`, `Data::addAttribute` -/

/-- the checks on the source block and the deep copy loop, as the copy constructor and
    `operator=` share them -/
theorem copyBlock_ok {β : Type} {blk : Option Block} {h0 : Heap} {g : List Val → Heap → β} {r : β}
    (h : (match blk with
          | none => .error .ubNullBlock
          | some b =>
            if b.size < f.size then .error .ubStale
            else if b.vals.any Val.isLiveStr then .error .ubStrCopy
            else if spMisaligned f.byIndex then .error .ubMisaligned
            else
              match deepCopyVals h0 f.byIndex b.vals b.vals with
              | .error er => .error er
              | .ok (vals, h) => .ok (g vals h)) = Except.ok r) :
    ∃ (b : Block) (vals : List Val) (h' : Heap), blk = some b ∧ ¬ b.size < f.size ∧
      b.vals.any Val.isLiveStr = false ∧ spMisaligned f.byIndex = false ∧
      deepCopyVals h0 f.byIndex b.vals b.vals = .ok (vals, h') ∧ r = g vals h' := by
  obtain ⟨b, hb, h⟩ := block_bind_ok h
  obtain ⟨hfull, h⟩ := ite_error_ok h
  obtain ⟨hstr, h⟩ := ite_error_ok h
  obtain ⟨hmis, h⟩ := ite_error_ok h
  cases hc : deepCopyVals h0 f.byIndex b.vals b.vals with
  | error er => rw [hc] at h; cases h
  | ok p =>
    rw [hc] at h; cases h
    exact ⟨b, p.1, p.2, hb, hfull, Bool.of_not_eq_true hstr, Bool.of_not_eq_true hmis, hc, rfl⟩

theorem copyData_ok {e id : Nat} (h : copyData s e = .ok (s', id)) :
    ∃ src : Data, s.datas[e]? = some (some src) ∧ id = s.datas.length ∧
      ((src.fmt = none ∧ s' = { s with datas := s.datas ++ [some ⟨none, none⟩] }) ∨
       (∃ (fid : Nat) (f : Format), src.fmt = some fid ∧ s.fmts[fid]? = some f ∧ f.size = 0 ∧
          s' = { s with datas := s.datas ++ [some ⟨some fid, none⟩] }) ∨
       (∃ (fid : Nat) (f : Format) (b : Block) (vals : List Val) (h' : Heap),
          src.fmt = some fid ∧ s.fmts[fid]? = some f ∧ f.size ≠ 0 ∧ src.block = some b ∧
          ¬ b.size < f.size ∧ b.vals.any Val.isLiveStr = false ∧ spMisaligned f.byIndex = false ∧
          deepCopyVals s.heap f.byIndex b.vals b.vals = .ok (vals, h') ∧
          s' = { s with datas := s.datas ++ [some ⟨some fid, some ⟨f.size, vals⟩⟩], heap := h' })) := by
  unfold copyData at h
  obtain ⟨src, hsrc, h⟩ := getData_bind_ok h
  refine ⟨src, hsrc, ?_⟩
  cases hfid : src.fmt with
  | none => rw [hfid] at h; cases h; exact ⟨rfl, Or.inl ⟨rfl, rfl⟩⟩
  | some fid =>
    rw [hfid] at h
    obtain ⟨f, hf, h⟩ := getFmt_bind_ok h
    by_cases h0 : f.size = 0
    · rw [if_pos h0] at h; cases h
      exact ⟨rfl, Or.inr (Or.inl ⟨fid, f, rfl, hf, h0, rfl⟩)⟩
    · rw [if_neg h0] at h
      obtain ⟨b, vals, h', hb, hfull, hstr, hmis, hc, hr⟩ := copyBlock_ok h
      cases hr
      exact ⟨rfl, Or.inr (Or.inr ⟨fid, f, b, vals, h', rfl, hf, h0, hb, hfull, hstr, hmis, hc, rfl⟩)⟩

/-- `releaseIfFmt s dst` is by definition the `if (m_format) m_format->release(m_data)` that
    `assignData` spells out -/
theorem assignData_ok {e : Nat} (h : assignData s d e = .ok s') :
    ∃ dst src : Data, s.datas[d]? = some (some dst) ∧ s.datas[e]? = some (some src) ∧
      ((dst.fmt ≠ src.fmt ∧ ∃ h1 : Heap, releaseIfFmt s dst = .ok h1 ∧
          ((src.fmt = none ∧ s' = { s with heap := h1 }.setData d (some ⟨none, none⟩)) ∨
           (∃ (fid : Nat) (f : Format) (b : Block) (vals : List Val) (h' : Heap),
              src.fmt = some fid ∧ s.fmts[fid]? = some f ∧ f.size ≠ 0 ∧ src.block = some b ∧
              ¬ b.size < f.size ∧ b.vals.any Val.isLiveStr = false ∧ spMisaligned f.byIndex = false ∧
              deepCopyVals h1 f.byIndex b.vals b.vals = .ok (vals, h') ∧
              s' = { s with heap := h' }.setData d (some ⟨some fid, some ⟨f.size, vals⟩⟩)))) ∨
       (dst.fmt = src.fmt ∧
          ((src.fmt = none ∧ s' = s) ∨
           (∃ (fid : Nat) (f : Format) (db b : Block) (vals : List Val) (h' : Heap),
              src.fmt = some fid ∧ s.fmts[fid]? = some f ∧ dst.block = some db ∧ src.block = some b ∧
              ¬ db.size < f.size ∧ ¬ b.size < f.size ∧ b.vals.any Val.isLiveStr = false ∧
              spMisaligned f.byIndex = false ∧
              deepCopyVals s.heap f.byIndex b.vals b.vals = .ok (vals, h') ∧
              s' = { s with heap := h', leaked := s.leaked ++ db.vals.filterMap Val.spAddr }.setData d
                    (some ⟨some fid, some ⟨db.size, vals⟩⟩))))) := by
  unfold assignData at h
  obtain ⟨dst, hdst, h⟩ := getData_bind_ok h
  obtain ⟨src, hsrc, h⟩ := getData_bind_ok h
  refine ⟨dst, src, hdst, hsrc, ?_⟩
  by_cases hne : dst.fmt = src.fmt
  · -- same format: the block is overwritten in place
    rw [if_neg (not_not_intro hne)] at h
    refine Or.inr ⟨hne, ?_⟩
    cases hfid : src.fmt with
    | none => rw [hfid] at h; cases h; exact Or.inl ⟨rfl, rfl⟩
    | some fid =>
      rw [hfid] at h
      obtain ⟨f, hf, h⟩ := getFmt_bind_ok h
      cases hdb : dst.block with
      | none => rw [hdb] at h; cases h
      | some db =>
        cases hb : src.block with
        | none => rw [hdb, hb] at h; cases h
        | some b =>
          rw [hdb, hb] at h
          obtain ⟨hst, h⟩ := ite_error_ok h
          obtain ⟨hstr, h⟩ := ite_error_ok h
          obtain ⟨hmis, h⟩ := ite_error_ok h
          cases hc : deepCopyVals s.heap f.byIndex b.vals b.vals with
          | error er => rw [hc] at h; cases h
          | ok p =>
            rw [hc] at h; cases h
            have hst' := Bool.or_eq_false_iff.1 (Bool.of_not_eq_true hst)
            exact Or.inr ⟨fid, f, db, b, p.1, p.2, rfl, hf, rfl, rfl, of_decide_eq_false hst'.1,
              of_decide_eq_false hst'.2, Bool.of_not_eq_true hstr, Bool.of_not_eq_true hmis, hc, rfl⟩
  · -- different formats: release, then copy into a new block
    rw [if_pos hne] at h
    obtain ⟨h1, hrel, h⟩ := heap_bind_ok h
    refine Or.inl ⟨hne, h1, hrel, ?_⟩
    cases hfid : src.fmt with
    | none => rw [hfid] at h; cases h; exact Or.inl ⟨rfl, rfl⟩
    | some fid =>
      rw [hfid] at h
      obtain ⟨f, hf, h⟩ := getFmt_bind_ok h
      obtain ⟨h0, h⟩ := ite_error_ok h
      obtain ⟨b, vals, h', hb, hfull, hstr, hmis, hc, hr⟩ := copyBlock_ok h
      cases hr
      exact Or.inr ⟨fid, f, b, vals, h', rfl, hf, h0, hb, hfull, hstr, hmis, hc, rfl⟩

theorem dataAddAttribute_ok {name symbol : String} {t : DType}
    {pers : Bool} {a : Attr} (h : dataAddAttribute al s d name t pers symbol = .ok (s', a)) :
    ∃ (dat : Data) (fid : Nat) (f f' : Format), s.datas[d]? = some (some dat) ∧ dat.fmt = some fid ∧
      s.fmts[fid]? = some f ∧ f.addAttribute al name t pers symbol = .ok (a, f') ∧
      ((f.size = f'.size ∧ s' = s.setFmt fid f') ∨
       (f.size ≠ f'.size ∧ ∃ b : Block, dat.block = some b ∧ ¬ b.size < f.size ∧
          ((t.isContainer = true ∧ a.misaligned = false ∧
              s' = ⟨s.fmts.set fid f', s.datas.set d (some ⟨some fid, some ⟨f'.size,
                b.vals ++ [Val.sp (some s.heap.length)]⟩⟩), s.heap ++ [some ⟨[], 1⟩], s.leaked⟩) ∨
           (t.isContainer = false ∧
              s' = ⟨s.fmts.set fid f', s.datas.set d (some ⟨some fid, some ⟨f'.size,
                b.vals ++ [zeroVal t]⟩⟩), s.heap, s.leaked⟩)))) := by
  unfold dataAddAttribute at h
  obtain ⟨dat, hdat, h⟩ := getData_bind_ok h
  obtain ⟨fid, f, hfid, hf, h⟩ := fmtOf_bind_ok h
  cases hadd : f.addAttribute al name t pers symbol with
  | error er => rw [hadd] at h; cases h
  | ok q =>
    obtain ⟨attr, f'⟩ := q
    rw [hadd] at h; dsimp only at h
    by_cases hsz : f.size = f'.size
    · rw [if_pos hsz] at h; cases h
      exact ⟨dat, fid, f, f', hdat, hfid, hf, hadd, Or.inl ⟨hsz, rfl⟩⟩
    · rw [if_neg hsz] at h
      obtain ⟨b, hb, h⟩ := block_bind_ok h
      obtain ⟨hfull, h⟩ := ite_error_ok h
      obtain ⟨hmis, h⟩ := ite_error_ok h
      cases hc : t.isContainer with
      | false =>
        rw [hc] at h; cases h
        exact ⟨dat, fid, f, f', hdat, hfid, hf, hadd, Or.inr ⟨hsz, b, hb, hfull, Or.inr ⟨rfl, rfl⟩⟩⟩
      | true =>
        rw [hc] at h hmis; cases h
        exact ⟨dat, fid, f, f', hdat, hfid, hf, hadd,
          Or.inr ⟨hsz, b, hb, hfull, Or.inl ⟨rfl, Bool.of_not_eq_true hmis, rfl⟩⟩⟩

/-! ## The other operations that change the state -/

theorem clearData_ok {all : Bool} (h : clearData all s d = .ok s') :
    ∃ (dat : Data) (fid : Nat) (f : Format), s.datas[d]? = some (some dat) ∧ dat.fmt = some fid ∧
      s.fmts[fid]? = some f ∧
      ((dat.block = none ∧ s' = s) ∨
       ∃ (b : Block) (vs : List Val) (h' : Heap), dat.block = some b ∧
         clearVals all s.heap f.byIndex b.vals = .ok (vs, h') ∧
         s' = { s with heap := h' }.setData d (some { dat with block := some { b with vals := vs } })) := by
  unfold clearData at h
  obtain ⟨dat, hdat, h⟩ := getData_bind_ok h
  obtain ⟨fid, f, hfid, hf, h⟩ := fmtOf_bind_ok h
  refine ⟨dat, fid, f, hdat, hfid, hf, ?_⟩
  cases hb : dat.block with
  | none =>
    rw [hb] at h
    obtain ⟨-, h⟩ := ite_error_ok h
    cases h; exact Or.inl ⟨rfl, rfl⟩
  | some b =>
    rw [hb] at h
    obtain ⟨-, h⟩ := ite_error_ok h
    cases hc : clearVals all s.heap f.byIndex b.vals with
    | error er => rw [hc] at h; cases h
    | ok p => rw [hc] at h; cases h; exact Or.inr ⟨b, p.1, p.2, rfl, hc, rfl⟩

theorem protectData_ok {p : Bool} (h : protectData p s d i = .ok s') :
    ∃ l : AttrAt, s.attrAt d i = .ok l ∧ s' = s.setFmt l.fid (l.fmt.setPersistent i p) := by
  unfold protectData at h
  obtain ⟨l, hl, h⟩ := attrAt_bind_ok h
  cases h; exact ⟨l, hl, rfl⟩

theorem writeVal_ok (h : writeVal s l d i v = .ok s') :
    ∃ (b : Block) (old : Val), l.slot i = .ok (b, old) ∧
      s' = s.setData d (some { l.dat with block := some { b with vals := b.vals.set i v } }) := by
  unfold writeVal at h
  cases hslot : l.slot i with
  | error er => rw [hslot] at h; cases h
  | ok p =>
    rw [hslot] at h
    obtain ⟨-, h⟩ := ite_error_ok h
    cases h; exact ⟨p.1, p.2, rfl, rfl⟩

theorem pushData_ok {e : Elem} (h : pushData s d i e = .ok s') :
    ∃ (l : AttrAt) (b : Block) (a : Nat) (c : Cell), s.attrAt d i = .ok l ∧ l.slot i = .ok (b, .sp (some a)) ∧
      s.heap[a]? = some (some c) ∧ s' = { s with heap := s.heap.set a (some { c with val := c.val ++ [e] }) } := by
  unfold pushData at h
  obtain ⟨l, hl, h⟩ := attrAt_bind_ok h
  obtain ⟨-, h⟩ := ite_error_ok h
  cases hslot : l.slot i with
  | error er => rw [hslot] at h; cases h
  | ok p =>
    obtain ⟨b, v⟩ := p
    rw [hslot] at h; dsimp only at h
    cases hv : v.spAddr with
    | none => rw [hv] at h; cases h
    | some a =>
      rw [hv] at h; dsimp only at h
      cases hc : s.heap.get a with
      | none => rw [hc] at h; cases h
      | some c =>
        rw [hc] at h; cases h
        cases Val.spAddr_eq_some.1 hv
        exact ⟨l, b, a, c, hl, hslot, Heap.get_eq_some.1 hc, rfl⟩

theorem fromText_hasType {t : DType} {value : List Char}
    (h : fromText nc t value = .ok v) : v.hasType t = true ∧ t.isContainer = false := by
  cases t <;> cases h <;> exact ⟨rfl, by decide⟩

theorem fromStrData_ok {text : List Char}
    (h : fromStrData nc s d i text = .ok s') :
    ∃ (l : AttrAt) (v : Val), s.attrAt d i = .ok l ∧ fromText nc l.attr.dtype text = .ok v ∧
      writeVal s l d i v = .ok s' := by
  unfold fromStrData at h
  obtain ⟨l, hl, h⟩ := attrAt_bind_ok h
  cases hv : fromText nc l.attr.dtype text with
  | error er => rw [hv] at h; cases h
  | ok v => rw [hv] at h; exact ⟨l, v, hl, hv, h⟩

theorem toStrData_ok {txt : List Char}
    (h : toStrData nc s d i = .ok txt) :
    ∃ (l : AttrAt) (r : RVal), s.attrAt d i = .ok l ∧ s.read d i = .ok r ∧ toText nc l.attr.dtype r = .ok txt := by
  unfold toStrData at h
  split at h
  · cases h
  · rename_i l hl
    split at h
    · cases h
    · split at h
      · cases h
      · rename_i b v hslot
        split at h
        · cases h
        · cases h
        · rename_i r hr
          refine ⟨l, r, hl, ?_, h⟩
          unfold State.read
          rw [hl]
          simp only [hslot, hr]

/-! ## `step` on the four operations whose functions `Props/C14.lean` speaks of -/

theorem step_copy {e : Nat} {o : Out}
    (h : step al nc s (.copy e) = .ok (s', o)) : ∃ id, copyData s e = .ok (s', id) ∧ o = .data id := by
  simp only [DataFormat.step] at h
  split at h
  · cases h
  · rename_i s1 id hc
    cases h; exact ⟨id, hc, rfl⟩

theorem step_assign {e : Nat} {o : Out}
    (h : step al nc s (.assign d e) = .ok (s', o)) : assignData s d e = .ok s' := by
  obtain ⟨s1, hc, h⟩ := state_bind_ok h
  cases h; exact hc

theorem step_dadd {name symbol : String} {t : DType}
    {pers : Bool} {o : Out} (h : step al nc s (.dadd d name t pers symbol) = .ok (s', o)) :
    ∃ a, dataAddAttribute al s d name t pers symbol = .ok (s', a) ∧ o = .attr a := by
  simp only [DataFormat.step] at h
  split at h
  · cases h
  · rename_i s1 a hc
    cases h; exact ⟨a, hc, rfl⟩

theorem step_clear {o : Out}
    (h : step al nc s (.clear d) = .ok (s', o)) : clearData false s d = .ok s' := by
  obtain ⟨s1, hc, h⟩ := state_bind_ok h
  cases h; exact hc

end Sympler.DataFormat
