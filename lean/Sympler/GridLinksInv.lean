import Sympler.GridLinksGeo

/-!
The invariant of the loop "look for neighbours" of `cellSubdivide` that yields completeness and uniqueness of the
link list (`LInv`), its preservation by `neighborStep` (`neighborStep_linv`) and by the two folds.  Core Lean only.
-/
namespace Sympler.Grid
open Sympler Sympler.Cells Sympler.Gen.CellTables

/-- what every link looks like: the local link of a cell, or a link with a direction in `0..25` between two
different existing cells that acts on both, with the `cellDist` distance -/
def LinkWF (N : Nat) (cells : Array CellGeom) (lk : LinkGeom) : Prop :=
  (lk.align = -1 ∧ lk.first = lk.second) ∨
  (0 ≤ lk.align ∧ lk.align < 26 ∧ lk.first < N ∧ lk.second < N ∧ lk.first ≠ lk.second ∧ lk.aoF = true ∧
    lk.aoS = true ∧
    lk.dist = cellDist (cells.getD lk.first default) (cells.getD lk.second default) lk.align.toNat)

/-- the local links: exactly one per cell, it is `m_links[c]`, and `m_local_link` points to it -/
structure LocalOK (N : Nat) (g : Grid) : Prop where
  cnt : ∀ c, c < N → g.links.toList.countP (isLocalOf c) = 1
  loc : ∀ c, c < N → g.loc.get c = c
  lk : ∀ c, c < N → ∃ lk, g.links[c]? = some lk ∧ lk.align = -1 ∧ lk.first = c ∧ lk.second = c ∧ lk.dist = (0, 0, 0)

/-- Invariant of the neighbour loop.  `C c m` = "slot `(c, m)` is covered": the step `(c, m)` or the step of its
mirror slot has created the link. -/
structure LInv (nc : V3 Int) (cells : Array CellGeom) (per : V3 Bool) (N : Nat) (C : Nat → Nat → Prop) (g : Grid) :
    Prop where
  cells_eq : g.cells = cells
  nc_eq : g.nc = nc
  wf : ∀ lk, lk ∈ g.links.toList → LinkWF N cells lk
  locals : LocalOK N g
  len : ∀ c m, c < N → m < 26 → (g.nbAt c m).length = g.links.toList.countP (occupiesSlot · c m)
  cov : ∀ c m, c < N → m < 26 → C c m → ∃ t, nbr nc cells per c m = some t ∧
    g.links.toList.countP (represents · c m t) = 1 ∧ g.links.toList.countP (occupiesSlot · c m) = 1 ∧
    g.outAt c m = [t]
  ncov : ∀ c m, c < N → m < 26 → ¬ C c m →
    g.links.toList.countP (occupiesSlot · c m) = 0 ∧ g.outAt c m = []
  closed : ∀ c m t, c < N → m < 26 → C c m → nbr nc cells per c m = some t → C t (25 - m)

/-! ### the new link -/

theorem occupiesSlot_new (g : Grid) {i t n : Nat} (hn : n < 26) (c : Nat) {m : Nat} (_hm : m < 26) :
    occupiesSlot (mkLink g i t n true true) c m = true ↔ (c = i ∧ m = n) ∨ (c = t ∧ m = 25 - n) := by
  unfold occupiesSlot mkLink invNeighbor numNeighbors
  simp only [Bool.and_eq_true, Bool.or_eq_true, beq_iff_eq, bne_iff_ne, ne_eq]
  constructor
  · rintro ⟨_, h | h⟩
    · left; exact ⟨h.1.symm, by omega⟩
    · right; exact ⟨h.1.symm, by omega⟩
  · rintro (h | h)
    · exact ⟨by omega, Or.inl ⟨h.1.symm, by omega⟩⟩
    · exact ⟨by omega, Or.inr ⟨h.1.symm, by omega⟩⟩

theorem represents_new (g : Grid) {i t n : Nat} (hn : n < 26) (c : Nat) {m : Nat} (_hm : m < 26) (t' : Nat) :
    represents (mkLink g i t n true true) c m t' = true ↔
      (c = i ∧ t' = t ∧ m = n) ∨ (t' = i ∧ c = t ∧ m = 25 - n) := by
  unfold represents mkLink invNeighbor numNeighbors
  simp only [Bool.and_eq_true, Bool.or_eq_true, beq_iff_eq]
  constructor
  · rintro (h | h)
    · left; exact ⟨h.1.1.symm, h.1.2.symm, by omega⟩
    · right; exact ⟨h.1.1.symm, h.1.2.symm, by omega⟩
  · rintro (h | h)
    · left; exact ⟨⟨h.1.symm, h.2.1.symm⟩, by omega⟩
    · right; exact ⟨⟨h.1.symm, h.2.1.symm⟩, by omega⟩

theorem rep_occ {lk : LinkGeom} {c m t : Nat} (hm : m < 26) (h : represents lk c m t = true) :
    occupiesSlot lk c m = true := by
  unfold represents at h
  unfold occupiesSlot
  unfold invNeighbor numNeighbors at *
  simp only [Bool.and_eq_true, Bool.or_eq_true, beq_iff_eq, bne_iff_ne, ne_eq] at h ⊢
  rcases h with h | h
  · exact ⟨by omega, Or.inl ⟨h.1.1, h.2⟩⟩
  · exact ⟨by omega, Or.inr ⟨h.1.2, h.2⟩⟩

theorem pushOutlet_get_nil (s : Store (Store (List Nat))) {c d : Nat} (v : Nat) (h : (s.get c).get d = [])
    (c' d' : Nat) :
    ((pushOutlet s c d v).get c').get d' = if c' = c ∧ d' = d then [v] else (s.get c').get d' := by
  unfold pushOutlet
  rw [h]
  simp only [List.contains_nil, Bool.false_eq_true, if_false]
  rw [get_pushAt, h]
  rfl

theorem addNeighbor_eq (g : Grid) (i t n : Nat) (hnb : g.nbAt i n = []) :
    addNeighbor g i t n =
      { g with
        nb := pushAt (pushAt g.nb i n g.links.size) t (invNeighbor n).toNat g.links.size
        links := g.links.push (mkLink g i t n true true)
        out := pushOutlet (pushOutlet g.out i n t) t (invNeighbor n).toNat i } := by
  unfold addNeighbor establishLink
  simp [hnb]

theorem localOK_push {N : Nat} {g g' : Grid} (h : LocalOK N g) (hN : N ≤ g.links.size) {lk : LinkGeom}
    (hl : g'.links = g.links.push lk) (hloc : g'.loc = g.loc) (ha : lk.align ≠ -1) : LocalOK N g' := by
  refine ⟨?_, ?_, ?_⟩
  · intro c hc
    rw [hl, countP_push, h.cnt c hc]
    have : isLocalOf c lk = false := by
      unfold isLocalOf
      simp [ha]
    simp [this]
  · intro c hc; rw [hloc]; exact h.loc c hc
  · intro c hc
    obtain ⟨l, e, r⟩ := h.lk c hc
    refine ⟨l, ?_, r⟩
    rw [hl, Array.getElem?_push]
    have : c ≠ g.links.size := by omega
    simp only [this, if_false]
    exact e

/-- the step that creates a link: slot `(i, n)` is empty, the neighbour `t` exists -/
theorem addNeighbor_linv {nc : V3 Int} {cells : Array CellGeom} {N : Nat} (geo : GeoOK nc cells N) {per : V3 Bool}
    {C : Nat → Nat → Prop} {g : Grid} (h : LInv nc cells per N C g) (hsz : N ≤ g.links.size) {i n t : Nat}
    (hi : i < N) (hn : n < 26) (hnb : g.nbAt i n = []) (ht : nbr nc cells per i n = some t) :
    LInv nc cells per N (fun c m => C c m ∨ (c = i ∧ m = n) ∨ (c = t ∧ m = 25 - n)) (addNeighbor g i t n) := by
  rw [addNeighbor_eq g i t n hnb, invNeighbor_toNat hn]
  have htN : t < N := nbr_lt geo ht
  have hne : t ≠ i := nbr_ne geo hi hn ht
  have hmir : nbr nc cells per t (25 - n) = some i := nbr_mirror geo hi hn ht
  have hn' : 25 - n < 26 := by omega
  have hnn : 25 - (25 - n) = n := by omega
  -- slot `(i, n)` is empty, hence uncovered, hence (`closed`) its mirror slot is uncovered too: no link occupies either, and
  -- pushing the one new link makes both counts 1
  have hnC : ¬ C i n := fun hC => by
    obtain ⟨_, _, _, h1, _⟩ := h.cov i n hi hn hC
    rw [← h.len i n hi hn, hnb] at h1
    exact absurd h1 (by decide)
  have hnC' : ¬ C t (25 - n) := fun hC => hnC (hnn ▸ h.closed t (25 - n) i htN hn' hC hmir)
  obtain ⟨hocc_i, hout_i⟩ := h.ncov i n hi hn hnC
  obtain ⟨hocc_t, hout_t⟩ := h.ncov t (25 - n) htN hn' hnC'
  have hocc : ∀ c m, m < 26 → (g.links.push (mkLink g i t n true true)).toList.countP (occupiesSlot · c m) =
      g.links.toList.countP (occupiesSlot · c m) + (if (c = i ∧ m = n) ∨ (c = t ∧ m = 25 - n) then 1 else 0) :=
    fun c m hm => by rw [countP_push]; simp only [occupiesSlot_new g hn c hm]
  have hrep : ∀ c m t', m < 26 → (g.links.push (mkLink g i t n true true)).toList.countP (represents · c m t') =
      g.links.toList.countP (represents · c m t') +
        (if (c = i ∧ t' = t ∧ m = n) ∨ (t' = i ∧ c = t ∧ m = 25 - n) then 1 else 0) :=
    fun c m t' hm => by rw [countP_push]; simp only [represents_new g hn c hm t']
  have hrep_le : ∀ c m t', m < 26 → g.links.toList.countP (represents · c m t') ≤
      g.links.toList.countP (occupiesSlot · c m) :=
    fun c m t' hm => List.countP_mono_left fun lk _ hr => rep_occ hm hr
  have hout : ∀ c m, ((pushOutlet (pushOutlet g.out i n t) t (25 - n) i).get c).get m =
      if c = t ∧ m = 25 - n then [i] else if c = i ∧ m = n then [t] else g.outAt c m := by
    intro c m
    have h1 := pushOutlet_get_nil g.out t hout_i
    rw [pushOutlet_get_nil _ i (by rw [h1, if_neg fun e => hne e.1]; exact hout_t), h1]
    rfl
  -- a slot of the new link, with the cell `b` at its other end
  have fresh : ∀ a d b, a < N → d < 26 → (a = i ∧ d = n ∧ b = t) ∨ (a = t ∧ d = 25 - n ∧ b = i) →
      (g.links.push (mkLink g i t n true true)).toList.countP (represents · a d b) = 1 ∧
      (g.links.push (mkLink g i t n true true)).toList.countP (occupiesSlot · a d) = 1 := by
    intro a d b ha hd hs
    have h0 : g.links.toList.countP (occupiesSlot · a d) = 0 := by
      rcases hs with ⟨rfl, rfl, _⟩ | ⟨rfl, rfl, _⟩ <;> assumption
    have := hrep_le a d b hd
    rw [hrep a d b hd, hocc a d hd, h0, if_pos (hs.imp (fun e => ⟨e.1, e.2.2, e.2.1⟩) fun e => ⟨e.2.2, e.1, e.2.1⟩),
      if_pos (hs.imp (fun e => ⟨e.1, e.2.1⟩) fun e => ⟨e.1, e.2.1⟩)]
    omega
  refine ⟨h.cells_eq, h.nc_eq, ?_, ?_, ?_, ?_, ?_, ?_⟩
  · intro lk hlk
    simp only [Array.toList_push, List.mem_append, List.mem_singleton] at hlk
    rcases hlk with hlk | rfl
    · exact h.wf lk hlk
    · have hti : ¬ i = t := fun e => hne e.symm
      exact Or.inr ⟨by show (0 : Int) ≤ (n : Int); omega, by show ((n : Nat) : Int) < 26; omega, hi, htN, hti, rfl, rfl,
        by simp [mkLink, hti, h.cells_eq]⟩
  · exact localOK_push h.locals hsz rfl rfl (by show ((n : Nat) : Int) ≠ -1; omega)
  · intro c m hc hm
    rw [hocc c m hm, ← h.len c m hc hm]
    simp only [Grid.nbAt, get_pushAt]
    rw [if_neg fun e : t = i ∧ 25 - n = n => hne e.1]
    by_cases e2 : c = t ∧ m = 25 - n
    · obtain ⟨rfl, rfl⟩ := e2
      simp
    · by_cases e1 : c = i ∧ m = n
      · obtain ⟨rfl, rfl⟩ := e1; simp [e2]
      · simp [e1, e2]
  · intro c m hc hm hC
    simp only [Grid.outAt]
    rw [hout]
    by_cases e1 : c = i ∧ m = n
    · obtain ⟨rfl, rfl⟩ := e1
      obtain ⟨r1, r2⟩ := fresh c m t hc hm (Or.inl ⟨rfl, rfl, rfl⟩)
      exact ⟨t, ht, r1, r2, by rw [if_neg fun e => hne e.1.symm, if_pos ⟨rfl, rfl⟩]⟩
    · by_cases e2 : c = t ∧ m = 25 - n
      · obtain ⟨rfl, rfl⟩ := e2
        obtain ⟨r1, r2⟩ := fresh c (25 - n) i hc hm (Or.inr ⟨rfl, rfl, rfl⟩)
        exact ⟨i, hmir, r1, r2, by rw [if_pos ⟨rfl, rfl⟩]⟩
      · obtain ⟨t', a1, a2, a3, a4⟩ := h.cov c m hc hm (hC.resolve_right fun h' => h'.elim e1 e2)
        refine ⟨t', a1, ?_, ?_, by rw [if_neg e2, if_neg e1]; exact a4⟩
        · rw [hrep c m t' hm, a2, if_neg fun e => e.elim (fun e => e1 ⟨e.1, e.2.2⟩) fun e => e2 e.2]
        · rw [hocc c m hm, a3, if_neg fun e => e.elim e1 e2]
  · intro c m hc hm hC
    have e1 : ¬ (c = i ∧ m = n) := fun e => hC (Or.inr (Or.inl e))
    have e2 : ¬ (c = t ∧ m = 25 - n) := fun e => hC (Or.inr (Or.inr e))
    obtain ⟨a1, a2⟩ := h.ncov c m hc hm fun e => hC (Or.inl e)
    simp only [Grid.outAt]
    rw [hocc c m hm, a1, if_neg fun e => e.elim e1 e2, hout, if_neg e2, if_neg e1]
    exact ⟨rfl, a2⟩
  · intro c m t' hc hm hC hnt
    rcases hC with hC | ⟨rfl, rfl⟩ | ⟨rfl, rfl⟩
    · exact Or.inl (h.closed c m t' hc hm hC hnt)
    · exact Or.inr (Or.inr ⟨Option.some.inj (hnt.symm.trans ht), rfl⟩)
    · exact Or.inr (Or.inl ⟨Option.some.inj (hnt.symm.trans hmir), hnn⟩)

/-- with at least two cells per direction the `addPeriodic` branch of the loop body is dead -/
theorem neighborStep_eq (per : V3 Bool) (g : Grid) (i n : Nat) (h2 : 2 ≤ g.nc.1 ∧ 2 ≤ g.nc.2.1 ∧ 2 ≤ g.nc.2.2) :
    neighborStep per g i n =
      if g.nbAt i n = [] then
        (match nbr g.nc g.cells per i n with
         | some t => addNeighbor g i t n
         | none => g)
      else g := by
  unfold neighborStep nbr
  by_cases hnb : g.nbAt i n = []
  · have hno : (V3.map2 (fun (k o : Int) => decide (k = 1) && decide (o ≠ 0)) g.nc (offsets.getD n (0, 0, 0))).any
        = false := by
      obtain ⟨a, b, c⟩ := h2
      have a' : ¬ g.nc.1 = 1 := by omega
      have b' : ¬ g.nc.2.1 = 1 := by omega
      have c' : ¬ g.nc.2.2 = 1 := by omega
      simp [V3.any, V3.map2, a', b', c']
    simp only [hnb, List.isEmpty_nil, if_true, hno]
    split <;> simp
  · have : (g.nbAt i n).isEmpty = false := by
      cases hl : g.nbAt i n with
      | nil => exact absurd hl hnb
      | cons a r => rfl
    simp [hnb, this]

/-- `∃ C'`: a link covers the slot it is created for and the mirror slot of the neighbour, so which slots are covered depends
on the history, not on `(i, n)` -/
theorem neighborStep_linv {nc : V3 Int} {cells : Array CellGeom} {N : Nat} (geo : GeoOK nc cells N) {per : V3 Bool}
    {C : Nat → Nat → Prop} {g : Grid} (h : LInv nc cells per N C g) (hsz : N ≤ g.links.size) {i n : Nat}
    (hi : i < N) (hn : n < 26) :
    ∃ C' : Nat → Nat → Prop, LInv nc cells per N C' (neighborStep per g i n) ∧
      N ≤ (neighborStep per g i n).links.size ∧ (∀ c m, C c m → C' c m) ∧
      (∀ t, nbr nc cells per i n = some t → C' i n) := by
  rw [neighborStep_eq per g i n (by rw [h.nc_eq]; exact geo.nc2), h.nc_eq, h.cells_eq]
  by_cases hnb : g.nbAt i n = []
  · rw [if_pos hnb]
    cases ht : nbr nc cells per i n with
    | none => exact ⟨C, h, hsz, fun _ _ x => x, fun t e => by simp at e⟩
    | some t =>
      simp only []
      refine ⟨_, addNeighbor_linv geo h hsz hi hn hnb ht, ?_, fun c m x => Or.inl x,
        fun _ _ => Or.inr (Or.inl ⟨rfl, rfl⟩)⟩
      rw [addNeighbor_eq g i t n hnb]
      simp only [Array.size_push]; omega
  · rw [if_neg hnb]
    refine ⟨C, h, hsz, fun _ _ x => x, fun t _ => ?_⟩
    apply Classical.byContradiction
    intro hC
    have := (h.ncov i n hi hn hC).1
    rw [← h.len i n hi hn] at this
    exact hnb (List.eq_nil_of_length_eq_zero this)

theorem foldl_dirs_linv {nc : V3 Int} {cells : Array CellGeom} {N : Nat} (geo : GeoOK nc cells N) (per : V3 Bool)
    {i : Nat} (hi : i < N) :
    ∀ (ns : List Nat) (C : Nat → Nat → Prop) (g : Grid), (∀ n ∈ ns, n < 26) → LInv nc cells per N C g →
      N ≤ g.links.size →
      ∃ C' : Nat → Nat → Prop, LInv nc cells per N C' (ns.foldl (fun g n => neighborStep per g i n) g) ∧
        N ≤ (ns.foldl (fun g n => neighborStep per g i n) g).links.size ∧ (∀ c m, C c m → C' c m) ∧
        (∀ n ∈ ns, ∀ t, nbr nc cells per i n = some t → C' i n) := by
  intro ns
  induction ns with
  | nil => intro C g _ h hsz; exact ⟨C, h, hsz, fun _ _ x => x, fun n hn => by simp at hn⟩
  | cons n ns ih =>
    intro C g hns h hsz
    rw [List.foldl_cons]
    obtain ⟨C1, h1, s1, m1, d1⟩ := neighborStep_linv (per := per) geo h hsz hi (hns n (by simp))
    obtain ⟨C2, h2, s2, m2, d2⟩ := ih C1 _ (fun m hm => hns m (by simp [hm])) h1 s1
    refine ⟨C2, h2, s2, fun c m x => m2 c m (m1 c m x), ?_⟩
    intro n' hn' t ht
    rcases List.mem_cons.mp hn' with e | e
    · subst e; exact m2 _ _ (d1 t ht)
    · exact d2 n' e t ht

theorem foldl_cells_linv {nc : V3 Int} {cells : Array CellGeom} {N : Nat} (geo : GeoOK nc cells N) (per : V3 Bool) :
    ∀ (cs : List Nat) (C : Nat → Nat → Prop) (g : Grid), (∀ i ∈ cs, i < N) → LInv nc cells per N C g →
      N ≤ g.links.size →
      ∃ C' : Nat → Nat → Prop,
        LInv nc cells per N C'
          (cs.foldl (fun g i => (List.range numNeighbors).foldl (fun g n => neighborStep per g i n) g) g) ∧
        (∀ c m, C c m → C' c m) ∧
        (∀ i ∈ cs, ∀ n, n < 26 → ∀ t, nbr nc cells per i n = some t → C' i n) := by
  intro cs
  induction cs with
  | nil => intro C g _ h _; exact ⟨C, h, fun _ _ x => x, fun n hn => by simp at hn⟩
  | cons i cs ih =>
    intro C g hcs h hsz
    rw [List.foldl_cons]
    obtain ⟨C1, h1, s1, m1, d1⟩ := foldl_dirs_linv geo per (hcs i (by simp)) (List.range numNeighbors) C g
      (fun n hn => List.mem_range.mp hn) h hsz
    obtain ⟨C2, h2, m2, d2⟩ := ih C1 _ (fun m hm => hcs m (by simp [hm])) h1 s1
    refine ⟨C2, h2, fun c m x => m2 c m (m1 c m x), ?_⟩
    intro i' hi' n hn t ht
    rcases List.mem_cons.mp hi' with e | e
    · subst e; exact m2 _ _ (d1 n (List.mem_range.mpr hn) t ht)
    · exact d2 i' e n hn t ht

end Sympler.Grid
