import Sympler.DataFormatOps
/-!
# Lemmas about the `DataFormat` model (C14): sizes, layout invariant

Core Lean only.  The property theorems are in `Props/C14.lean`.
-/
namespace Sympler.DataFormat

open Sympler.Gen.DataFormat (alignRound)

/-! ## Lists -/

theorem lt_of_getElem?_some {α : Type} {l : List α} {i : Nat} {x : α} (h : l[i]? = some x) : i < l.length :=
  (List.getElem?_eq_some_iff.1 h).1

theorem set_eq_self_of_getElem? {α : Type} {l : List α} {i : Nat} {x : α} (h : l[i]? = some x) : l.set i x = l := by
  obtain ⟨hlt, rfl⟩ := List.getElem?_eq_some_iff.1 h
  exact List.set_getElem_self hlt

theorem getElem?_concat_eq_some {α : Type} {l : List α} {a x : α} {i : Nat} :
    (l ++ [a])[i]? = some x ↔ l[i]? = some x ∨ (i = l.length ∧ a = x) := by
  rcases Nat.lt_trichotomy i l.length with h | h | h
  · rw [List.getElem?_append_left h]
    exact ⟨Or.inl, fun h' => h'.elim id (fun e => absurd e.1 (Nat.ne_of_lt h))⟩
  · subst h
    rw [List.getElem?_concat_length, List.getElem?_eq_none (Nat.le_refl _)]
    exact ⟨fun e => Or.inr ⟨rfl, Option.some.inj e⟩,
      fun h' => h'.elim (fun e => nomatch e) (fun e => congrArg some e.2)⟩
  · rw [List.getElem?_eq_none (by rw [List.length_append]; exact h), List.getElem?_eq_none (Nat.le_of_lt h)]
    exact ⟨(fun e => nomatch e), fun h' => h'.elim (fun e => nomatch e) (fun e => absurd e.1 (Nat.ne_of_gt h))⟩

theorem getElem?_concat_of_ne {α : Type} {l : List α} (a : α) {i : Nat} (h : i ≠ l.length) :
    (l ++ [a])[i]? = l[i]? :=
  Option.ext fun _ => getElem?_concat_eq_some.trans ⟨fun h' => h'.elim id (fun e => absurd e.1 h), Or.inl⟩

/-! ## Sizes -/

theorem alignRound_eq (a s : Nat) : alignRound a s = ((s - 1) / 2 ^ a + 1) * 2 ^ a := by
  simp [alignRound, Nat.shiftLeft_eq, Nat.shiftRight_eq_div_pow]

theorem alignRound_dvd (a s : Nat) : 2 ^ a ∣ alignRound a s := by
  rw [alignRound_eq]; exact Nat.dvd_mul_left _ _

theorem le_alignRound (a s : Nat) : s ≤ alignRound a s := by
  rw [alignRound_eq, Nat.mul_comm]
  have := Nat.lt_mul_div_succ (s - 1) (Nat.two_pow_pos a)
  omega

/-- `alignDataFor` is idempotent: calling it twice with the same argument changes nothing -/
theorem alignRound_idem (a s : Nat) : alignRound a (alignRound a s) = alignRound a s := by
  rw [alignRound_eq a (alignRound a s), alignRound_eq a s]
  generalize (s - 1) / 2 ^ a = q
  have hk : 0 < 2 ^ a := Nat.two_pow_pos a
  -- `(q+1)·2^a - 1 = 2^a·q + (2^a - 1)`, whose quotient by `2^a` is `q`
  have : ((q + 1) * 2 ^ a - 1) / 2 ^ a = q := by
    rw [Nat.add_mul, Nat.one_mul, Nat.add_sub_assoc hk, Nat.mul_comm, Nat.mul_add_div hk,
      Nat.div_eq_of_lt (by omega)]
    rfl
  rw [this]

theorem rawSize_pos (t : DType) : 0 < t.rawSize := by cases t <;> decide

theorem csize_pos (al : Option Nat) (t : DType) : 0 < csize al t := by
  cases al with
  | none => exact rawSize_pos t
  | some a => exact Nat.lt_of_lt_of_le (rawSize_pos t) (le_alignRound a _)

theorem rawSize_le_csize (al : Option Nat) (t : DType) : t.rawSize ≤ csize al t := by
  cases al with
  | none => exact Nat.le_refl _
  | some a => exact le_alignRound a _

theorem csize_dvd (a : Nat) (t : DType) : 2 ^ a ∣ csize (some a) t := alignRound_dvd a _

theorem cxxAlign_dvd_8 (t : DType) : t.cxxAlign ∣ 8 := by cases t <;> decide

theorem cxxAlign_pos (t : DType) : 0 < t.cxxAlign := by cases t <;> decide

/-! ## Layout -/

/-- sum of the (aligned) sizes of a list of attributes -/
def prefixSize (al : Option Nat) (l : List Attr) : Nat := (l.map fun a => csize al a.dtype).sum

@[simp] theorem prefixSize_nil (al : Option Nat) : prefixSize al [] = 0 := rfl

theorem prefixSize_append (al : Option Nat) (l₁ l₂ : List Attr) :
    prefixSize al (l₁ ++ l₂) = prefixSize al l₁ + prefixSize al l₂ := by
  simp [prefixSize, List.sum_append]

@[simp] theorem prefixSize_singleton (al : Option Nat) (a : Attr) :
    prefixSize al [a] = csize al a.dtype := by simp [prefixSize]

theorem prefixSize_take_succ (al : Option Nat) (l : List Attr) (i : Nat) (a : Attr)
    (h : l[i]? = some a) : prefixSize al (l.take (i + 1)) = prefixSize al (l.take i) + csize al a.dtype := by
  rw [List.take_add_one, h, prefixSize_append]; simp

theorem prefixSize_take_le (al : Option Nat) (l : List Attr) (i : Nat) :
    prefixSize al (l.take i) ≤ prefixSize al l := by
  have := prefixSize_append al (l.take i) (l.drop i)
  rw [List.take_append_drop] at this
  omega

theorem prefixSize_take_mono (al : Option Nat) (l : List Attr) {i j : Nat} (h : i ≤ j) :
    prefixSize al (l.take i) ≤ prefixSize al (l.take j) := by
  have := prefixSize_take_le al (l.take j) i
  rwa [List.take_take, Nat.min_eq_left h] at this

theorem prefixSize_dvd (a : Nat) (l : List Attr) : 2 ^ a ∣ prefixSize (some a) l := by
  induction l with
  | nil => exact Nat.dvd_zero _
  | cons x xs ih => exact prefixSize_append (some a) [x] xs ▸ Nat.dvd_add (by simp [csize_dvd]) ih

/-- two attributes are the same up to the `persistent` flag -/
def Attr.samePers (a b : Attr) : Prop :=
  a.name = b.name ∧ a.index = b.index ∧ a.offset = b.offset ∧ a.dtype = b.dtype ∧ a.symbol = b.symbol

theorem Attr.samePers.refl (a : Attr) : a.samePers a := ⟨rfl, rfl, rfl, rfl, rfl⟩

theorem Attr.samePers.trans {a b c : Attr} (h : a.samePers b) (h' : b.samePers c) : a.samePers c :=
  ⟨h.1.trans h'.1, h.2.1.trans h'.2.1, h.2.2.1.trans h'.2.2.1, h.2.2.2.1.trans h'.2.2.2.1,
   h.2.2.2.2.trans h'.2.2.2.2⟩

/-- the invariant of a `DataFormat` -/
structure FormatOk (al : Option Nat) (f : Format) : Prop where
  index : ∀ (i : Nat) (a : Attr), f.byIndex[i]? = some a → a.index = i
  offset : ∀ (i : Nat) (a : Attr), f.byIndex[i]? = some a → a.offset = prefixSize al (f.byIndex.take i)
  size : f.size = prefixSize al f.byIndex
  /-- every entry of `m_attr_by_name` is the entry of `m_attr_by_index` with its index, up to
      `persistent` (which `protect/unprotect` change in `m_attr_by_index` only) -/
  byName : ∀ a : Attr, a ∈ f.byName → ∃ b, f.byIndex[a.index]? = some b ∧ a.samePers b
  /-- every attribute can be found by its name -/
  named : ∀ (i : Nat) (b : Attr), f.byIndex[i]? = some b → ∃ a : Attr, f.find b.name = some a ∧ a.samePers b

theorem FormatOk.empty (al : Option Nat) : FormatOk al Format.empty :=
  ⟨fun _ _ h => (by cases h), fun _ _ h => (by cases h), rfl, fun _ h => (by cases h), fun _ _ h => (by cases h)⟩

theorem Format.find_some_mem {f : Format} {n : String} {a : Attr} (h : f.find n = some a) :
    a ∈ f.byName ∧ a.name = n :=
  ⟨List.mem_of_find?_eq_some h, by simpa using List.find?_some h⟩

theorem Format.find_append_of_some {f : Format} {n : String} {a x : Attr} (h : f.find n = some a) :
    (f.byName ++ [x]).find? (fun b => b.name == n) = some a := by
  unfold Format.find at h
  rw [List.find?_append, h]; rfl

theorem FormatOk.end_le_size {al : Option Nat} {f : Format} (hf : FormatOk al f) {i : Nat} {a : Attr}
    (h : f.byIndex[i]? = some a) : a.offset + csize al a.dtype ≤ f.size := by
  rw [hf.offset i a h, hf.size, ← prefixSize_take_succ al _ i a h]
  exact prefixSize_take_le al _ _

theorem FormatOk.disjoint {al : Option Nat} {f : Format} (hf : FormatOk al f) {i j : Nat} {a b : Attr}
    (hi : f.byIndex[i]? = some a) (hj : f.byIndex[j]? = some b) (hij : i < j) :
    a.offset + csize al a.dtype ≤ b.offset := by
  rw [hf.offset i a hi, hf.offset j b hj, ← prefixSize_take_succ al _ i a hi]
  exact prefixSize_take_mono al _ hij

theorem FormatOk.offset_dvd {a : Nat} {f : Format} (hf : FormatOk (some a) f) {i : Nat} {x : Attr}
    (h : f.byIndex[i]? = some x) : 2 ^ a ∣ x.offset := by
  rw [hf.offset i x h]; exact prefixSize_dvd a _

/-- after `alignDataFor(a)` with `a ≥ 3` every attribute is aligned for its C++ type -/
theorem FormatOk.aligned {a : Nat} (ha : 3 ≤ a) {f : Format} (hf : FormatOk (some a) f) {i : Nat} {x : Attr}
    (h : f.byIndex[i]? = some x) : 8 ∣ x.offset ∧ x.misaligned = false := by
  have h8 : 8 ∣ x.offset := Nat.dvd_trans (Nat.pow_dvd_pow 2 ha) (hf.offset_dvd h)
  have := Nat.dvd_trans (cxxAlign_dvd_8 x.dtype) h8
  exact ⟨h8, by simp [Attr.misaligned, Nat.mod_eq_zero_of_dvd this]⟩

theorem spMisaligned_false_of_aligned {a : Nat} (ha : 3 ≤ a) {f : Format} (hf : FormatOk (some a) f)
    (n : Nat) : spMisaligned (f.byIndex.take n) = false := by
  rw [spMisaligned, Bool.eq_false_iff]
  intro h
  obtain ⟨x, hx, hp⟩ := List.any_eq_true.1 h
  obtain ⟨i, hi⟩ := List.mem_iff_getElem?.1 (List.mem_of_mem_take hx)
  simp [(hf.aligned ha hi).2] at hp

theorem FormatOk.addAttribute {al : Option Nat} {f f' : Format} {n sym : String} {t : DType}
    {p : Bool} {a : Attr} (hf : FormatOk al f) (h : f.addAttribute al n t p sym = .ok (a, f')) :
    FormatOk al f' := by
  rcases Format.addAttribute_ok_cases h with ⟨hfind, ha, rfl⟩ | ⟨_, _, rfl⟩
  · -- a new attribute: index `length`, offset `size`
    have hidx : a.index = f.byIndex.length := by rw [ha]
    have hoff : a.offset = f.size := by rw [ha]
    have hty : a.dtype = t := by rw [ha]
    have hname : a.name = n := by rw [ha]
    refine ⟨fun i x hx => ?_, fun i x hx => ?_, ?_, fun x hx => ?_, fun i x hx => ?_⟩
    · rcases getElem?_concat_eq_some.1 hx with hx | ⟨rfl, rfl⟩
      · exact hf.index i x hx
      · exact hidx
    · show x.offset = prefixSize al ((f.byIndex ++ [a]).take i)
      rcases getElem?_concat_eq_some.1 hx with hx | ⟨rfl, rfl⟩
      · rw [List.take_append_of_le_length (Nat.le_of_lt (lt_of_getElem?_some hx))]
        exact hf.offset i x hx
      · rw [List.take_append_of_le_length (Nat.le_refl _), List.take_length, hoff, hf.size]
    · show f.size + csize al t = prefixSize al (f.byIndex ++ [a])
      rw [prefixSize_append, prefixSize_singleton, hf.size, hty]
    · rcases List.mem_append.1 hx with hx | hx
      · obtain ⟨b, hb, hs⟩ := hf.byName x hx
        exact ⟨b, getElem?_concat_eq_some.2 (Or.inl hb), hs⟩
      · cases List.mem_singleton.1 hx
        exact ⟨a, getElem?_concat_eq_some.2 (Or.inr ⟨hidx, rfl⟩), Attr.samePers.refl a⟩
    · rcases getElem?_concat_eq_some.1 hx with hx | ⟨rfl, rfl⟩
      · obtain ⟨y, hy, hs⟩ := hf.named i x hx
        exact ⟨y, Format.find_append_of_some hy, hs⟩
      · refine ⟨a, ?_, Attr.samePers.refl a⟩
        show (f.byName ++ [a]).find? (fun b => b.name == a.name) = some a
        have : f.byName.find? (fun b => b.name == a.name) = none := hname ▸ hfind
        rw [List.find?_append, this]; simp
  · exact hf

theorem FormatOk.setPersistent {al : Option Nat} {f : Format} (hf : FormatOk al f) (i : Nat) (p : Bool) :
    FormatOk al (f.setPersistent i p) := by
  cases ha : f.byIndex[i]? with
  | none => rw [Format.setPersistent_of_none ha]; exact hf
  | some a =>
    rw [Format.setPersistent_of_some ha]
    have hlt : i < f.byIndex.length := lt_of_getElem?_some ha
    -- an entry of the new table is the old entry with the same index, up to `persistent`
    have key : ∀ (j : Nat) (x : Attr), (f.byIndex.set i { a with persistent := p })[j]? = some x →
        ∃ y : Attr, f.byIndex[j]? = some y ∧ y.samePers x := by
      intro j x hx
      by_cases hij : i = j
      · subst hij
        rw [List.getElem?_set_self hlt] at hx; cases hx
        exact ⟨a, ha, Attr.samePers.refl a⟩
      · rw [List.getElem?_set_ne hij] at hx
        exact ⟨x, hx, Attr.samePers.refl x⟩
    -- the list of types, hence every prefix size, is the same
    have hps : ∀ k, prefixSize al ((f.byIndex.set i { a with persistent := p }).take k)
        = prefixSize al (f.byIndex.take k) := by
      intro k
      have : (f.byIndex.map fun a => csize al a.dtype)[i]? = some (csize al a.dtype) := by
        rw [List.getElem?_map, ha]; rfl
      unfold prefixSize
      rw [List.map_take, List.map_take, List.map_set, set_eq_self_of_getElem? this]
    refine ⟨fun j x hx => ?_, fun j x hx => ?_, ?_, fun x hx => ?_, fun j x hx => ?_⟩
    · obtain ⟨y, hy, hs⟩ := key j x hx
      rw [← hs.2.1]; exact hf.index j y hy
    · obtain ⟨y, hy, hs⟩ := key j x hx
      show x.offset = prefixSize al ((f.byIndex.set i { a with persistent := p }).take j)
      rw [hps, ← hs.2.2.1]; exact hf.offset j y hy
    · show f.size = prefixSize al (f.byIndex.set i { a with persistent := p })
      have := hps f.byIndex.length
      rw [List.take_of_length_le (by simp), List.take_length] at this
      rw [this]; exact hf.size
    · obtain ⟨b, hb, hs⟩ := hf.byName x hx
      by_cases hij : i = x.index
      · rw [← hij, ha] at hb; cases hb
        exact ⟨{ a with persistent := p }, hij ▸ List.getElem?_set_self hlt, hs⟩
      · exact ⟨b, (List.getElem?_set_ne hij).trans hb, hs⟩
    · obtain ⟨y, hy, hs⟩ := key j x hx
      obtain ⟨z, hz, hzs⟩ := hf.named j y hy
      exact ⟨z, hs.1 ▸ hz, hzs.trans hs⟩

end Sympler.DataFormat
