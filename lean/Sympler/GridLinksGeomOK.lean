import Sympler.GridLinksSpec

/-!
`GeomOK` for every grid that `cellSubdivide` builds from a box with positive side lengths
(`buildGrid_geomOK`; `subdivide_geomOK` is in `Sympler/GridLinksLemmas.lean`).  Core Lean only.
-/
namespace Sympler.Grid
open Sympler Sympler.Cells Sympler.Gen.CellTables

/-- one direction of `GeomOK` in terms of the distances `a`, `a'` of a cell and of its outlet from the lower face of the box -/
theorem dimOK_of_offsets (per : Bool) (lo hi w a a' : Rat) (o : Int) (hw : 0 < w)
    (ha : 0 ≤ a) (ha1 : a + w ≤ hi - lo) (ha' : 0 ≤ a') (ha1' : a' + w ≤ hi - lo)
    (hcase : (o = 0 ∧ a' = a) ∨ (o = 1 ∧ (a' = a + w ∨ (per = true ∧ a' = 0 ∧ a + w = hi - lo))) ∨
      (o = -1 ∧ (a = a' + w ∨ (per = true ∧ a = 0 ∧ a' + w = hi - lo)))) :
    DimOK per lo hi o (lo + a) (lo + a + w) (lo + a') (lo + a' + w)
      (cellDistComponent o (lo + a + w - (lo + a)) (lo + a' + w - (lo + a'))) := by
  unfold DimOK cellDistComponent
  rcases hcase with ⟨rfl, h⟩ | ⟨rfl, h⟩ | ⟨rfl, h⟩ <;> grind

theorem intCast_succ_mul (k : Int) (w : Rat) : ((k + 1 : Int) : Rat) * w = (k : Rat) * w + w := by
  rw [Rat.intCast_add, Rat.add_mul, Rat.intCast_one, Rat.one_mul]

theorem cell_in_box {lo hi : Rat} {n : Int} (hlh : lo < hi) (hn : 0 < n) :
    0 < (hi - lo) / (n : Rat) ∧ (n : Rat) * ((hi - lo) / (n : Rat)) = hi - lo ∧
    ∀ k : Int, 0 ≤ k → k < n →
      0 ≤ (k : Rat) * ((hi - lo) / (n : Rat)) ∧ (k : Rat) * ((hi - lo) / (n : Rat)) + (hi - lo) / (n : Rat) ≤ hi - lo := by
  have hn' : (0 : Rat) < (n : Rat) := Rat.intCast_pos.mpr hn
  have hw : 0 < (hi - lo) / (n : Rat) := by
    rw [Rat.div_def]; exact Rat.mul_pos ((Rat.lt_iff_sub_pos lo hi).mp hlh) (Rat.inv_pos.mpr hn')
  have hN : (n : Rat) * ((hi - lo) / (n : Rat)) = hi - lo := by
    rw [Rat.mul_comm]; exact Rat.div_mul_cancel (Rat.ne_of_gt hn')
  refine ⟨hw, hN, fun k hk0 hk1 => ⟨Rat.mul_nonneg (Rat.intCast_nonneg.mpr hk0) (Rat.le_of_lt hw), ?_⟩⟩
  have := Rat.mul_le_mul_of_nonneg_right (Rat.intCast_le_intCast.mpr (show k + 1 ≤ n by omega)) (Rat.le_of_lt hw)
  rwa [intCast_succ_mul, hN] at this

/-- one direction of `GeomOK` for the cell with coordinate `x` and its neighbour `stepD n per x o` -/
theorem dimOK_step (per : Bool) {lo hi : Rat} {n x o : Int} (hlh : lo < hi) (hn : 2 ≤ n) (hx0 : 0 ≤ x) (hx1 : x < n)
    (ho0 : -1 ≤ o) (ho1 : o ≤ 1) (hr0 : 0 ≤ stepD n per x o) (hr1 : stepD n per x o < n) {cc1 cc2 tc1 tc2 : Rat}
    (hc1 : cc1 = lo + (x : Rat) * ((hi - lo) / (n : Rat))) (hc2 : cc2 = cc1 + (hi - lo) / (n : Rat))
    (ht1 : tc1 = lo + (stepD n per x o : Rat) * ((hi - lo) / (n : Rat))) (ht2 : tc2 = tc1 + (hi - lo) / (n : Rat)) :
    DimOK per lo hi o cc1 cc2 tc1 tc2 (cellDistComponent o (cc2 - cc1) (tc2 - tc1)) := by
  have hspec := stepD_spec per hn hx0 hx1 ho0 ho1
  generalize stepD n per x o = x' at *
  subst hc2 ht2 hc1 ht1
  obtain ⟨hw, hN, hk⟩ := cell_in_box hlh (show 0 < n by omega)
  refine dimOK_of_offsets per lo hi _ _ _ o hw (hk x hx0 hx1).1 (hk x hx0 hx1).2 (hk x' hr0 hr1).1 (hk x' hr0 hr1).2 ?_
  rcases hspec with ⟨e, _⟩ | ⟨b, rfl, e', e⟩ | ⟨b, rfl, e, e'⟩
  · obtain rfl | rfl | rfl : o = 0 ∨ o = 1 ∨ o = -1 := by omega
    · exact Or.inl ⟨rfl, by rw [e, Int.add_zero]⟩
    · exact Or.inr (Or.inl ⟨rfl, Or.inl (by rw [e, intCast_succ_mul])⟩)
    · exact Or.inr (Or.inr ⟨rfl, Or.inl (by rw [show x = x' + 1 by omega, intCast_succ_mul])⟩)
  · exact Or.inr (Or.inl ⟨rfl, Or.inr ⟨b, by rw [e, Rat.intCast_zero, Rat.zero_mul], by rw [← intCast_succ_mul, e', hN]⟩⟩)
  · exact Or.inr (Or.inr ⟨rfl, Or.inr ⟨b, by rw [e, Rat.intCast_zero, Rat.zero_mul], by rw [← intCast_succ_mul, e', hN]⟩⟩)

/-- a direction without neighbour leaves the box through a wall, one dimension -/
theorem wallDim_step (per : Bool) {lo hi : Rat} {n x o : Int} (hn : 2 ≤ n) (hx0 : 0 ≤ x) (hx1 : x < n)
    (ho0 : -1 ≤ o) (ho1 : o ≤ 1) (hout : ¬ (0 ≤ stepD n per x o ∧ stepD n per x o < n)) {cc1 cc2 : Rat}
    (hc1 : cc1 = lo + (x : Rat) * ((hi - lo) / (n : Rat))) (hc2 : cc2 = cc1 + (hi - lo) / (n : Rat)) :
    WallDim per lo hi o cc1 cc2 := by
  rcases stepD_spec per hn hx0 hx1 ho0 ho1 with ⟨e, hin⟩ | ⟨_, _, _, e⟩ | ⟨_, _, _, e⟩
  · rw [e] at hout
    have hc : (o = 1 ∧ x + 1 = n) ∨ (o = -1 ∧ x = 0) := by omega
    refine ⟨Bool.eq_false_iff.mpr fun h => hout (hin h), hc.imp (fun ⟨a, e⟩ => ⟨a, ?_⟩) (fun ⟨a, e⟩ => ⟨a, ?_⟩)⟩
    · have hN : (n : Rat) * ((hi - lo) / (n : Rat)) = hi - lo := by
        rw [Rat.mul_comm]; exact Rat.div_mul_cancel (Rat.ne_of_gt (Rat.intCast_pos.mpr (by omega)))
      rw [hc2, hc1, Rat.add_assoc, ← intCast_succ_mul, e, hN, Rat.add_comm, Rat.sub_add_cancel]
    · rw [hc1, e, Rat.intCast_zero, Rat.zero_mul, Rat.add_zero]
  · exact absurd ⟨by omega, by omega⟩ hout
  · exact absurd ⟨by omega, by omega⟩ hout

/-! ### corners of the cells, and the region corners -/

theorem mkCells_corners (nc : V3 Int) (c1 width : V3 Rat) (i : Nat) (hi : i < (mkCells nc c1 width).size) :
    ((mkCells nc c1 width).getD i default).c1 =
      (c1.1 + (((mkCells nc c1 width).getD i default).tag.1 : Rat) * width.1,
       c1.2.1 + (((mkCells nc c1 width).getD i default).tag.2.1 : Rat) * width.2.1,
       c1.2.2 + (((mkCells nc c1 width).getD i default).tag.2.2 : Rat) * width.2.2) ∧
    ((mkCells nc c1 width).getD i default).c2 =
      (((mkCells nc c1 width).getD i default).c1.1 + width.1,
       ((mkCells nc c1 width).getD i default).c1.2.1 + width.2.1,
       ((mkCells nc c1 width).getD i default).c1.2.2 + width.2.2) := by
  unfold mkCells at hi ⊢
  simp only [List.size_toArray, List.length_map] at hi
  simp only [Array.getD_eq_getD_getElem?, List.getElem?_toArray, List.getElem?_map,
    List.getElem?_eq_getElem hi, Option.map_some, Option.getD_some]
  exact ⟨rfl, rfl⟩

/-- the grid built by the loops of `cellSubdivide` (at least two cells per direction, `width = (c2 − c1)/n_cells`,
box with positive side lengths) satisfies `GeomOK` -/
theorem buildGrid_geomOK (nc : V3 Int) (c1 c2 invWidth : V3 Rat) (per : V3 Bool)
    (hnc : 2 ≤ nc.1 ∧ 2 ≤ nc.2.1 ∧ 2 ≤ nc.2.2) (hbox : c1.1 < c2.1 ∧ c1.2.1 < c2.2.1 ∧ c1.2.2 < c2.2.2) :
    GeomOK (buildGrid nc c1 c2 invWidth (V3.map2 (fun (di : Rat) (n : Int) => di / (n : Rat)) (V3.sub c2 c1) nc) per)
      per := by
  have spec := (buildGrid_linksSpec nc c1 c2 invWidth
    (V3.map2 (fun (di : Rat) (n : Int) => di / (n : Rat)) (V3.sub c2 c1) nc) per hnc).2.2
  obtain ⟨enc, ec1, ec2, ecells⟩ := buildGrid_frame nc c1 c2 invWidth
    (V3.map2 (fun (di : Rat) (n : Int) => di / (n : Rat)) (V3.sub c2 c1) nc) per
  generalize buildGrid nc c1 c2 invWidth (V3.map2 (fun (di : Rat) (n : Int) => di / (n : Rat)) (V3.sub c2 c1) nc) per
    = G at *
  have corners := fun i (hi : i < G.cells.size) =>
    mkCells_corners nc c1 (V3.map2 (fun (di : Rat) (n : Int) => di / (n : Rat)) (V3.sub c2 c1) nc) i (ecells ▸ hi)
  rw [← ecells] at corners
  obtain ⟨n1, n2, n3⟩ := hnc
  obtain ⟨bx, bY, bz⟩ := hbox
  intro c hc n hn
  have hn : n < 26 := hn
  rw [ec1, ec2]
  obtain ⟨⟨ox0, ox1⟩, ⟨oy0, oy1⟩, ⟨oz0, oz1⟩, _, _⟩ := offsets_facts n hn
  obtain ⟨ca, cb⟩ := corners c hc
  have hrc := (posInRange_iff _ _).mp (spec.geo.tag_range c hc)
  rw [enc] at hrc
  obtain ⟨⟨x0, x1⟩, ⟨y0, y1⟩, z0, z1⟩ := hrc
  cases ht : nbr G.nc G.cells per c n with
  | some t =>
    obtain ⟨_, _, hout⟩ := spec.slot_some c n t hc hn ht
    rw [hout]
    refine ⟨fun t' ht' => ?_, fun h => absurd h (by simp)⟩
    rw [List.mem_singleton] at ht'
    subst ht'
    obtain ⟨ta, tb⟩ := corners t' (nbr_lt spec.geo ht)
    have htag := nbr_tag spec.geo ht
    obtain ⟨hr, _⟩ := nbr_some ht
    rw [enc, neighborPos_eq] at htag hr
    obtain ⟨⟨a0, a1⟩, ⟨b0, b1⟩, d0, d1⟩ := (posInRange_iff _ _).mp hr
    rw [htag] at ta
    exact ⟨dimOK_step per.1 bx n1 x0 x1 ox0 ox1 a0 a1 (congrArg (·.1) ca) (congrArg (·.1) cb) (congrArg (·.1) ta)
        (congrArg (·.1) tb),
      dimOK_step per.2.1 bY n2 y0 y1 oy0 oy1 b0 b1 (congrArg (·.2.1) ca) (congrArg (·.2.1) cb) (congrArg (·.2.1) ta)
        (congrArg (·.2.1) tb),
      dimOK_step per.2.2 bz n3 z0 z1 oz0 oz1 d0 d1 (congrArg (·.2.2) ca) (congrArg (·.2.2) cb) (congrArg (·.2.2) ta)
        (congrArg (·.2.2) tb)⟩
  | none =>
    obtain ⟨_, hout⟩ := spec.slot_none c n hc hn ht
    rw [hout]
    refine ⟨fun t' ht' => absurd ht' (by simp), fun _ => ?_⟩
    have hr := nbr_none ht
    rw [enc, neighborPos_eq, posInRange_iff] at hr
    by_cases w1 : 0 ≤ stepD nc.1 per.1 (G.cells.getD c default).tag.1 (offsets.getD n (0, 0, 0)).1 ∧
        stepD nc.1 per.1 (G.cells.getD c default).tag.1 (offsets.getD n (0, 0, 0)).1 < nc.1
    · by_cases w2 : 0 ≤ stepD nc.2.1 per.2.1 (G.cells.getD c default).tag.2.1 (offsets.getD n (0, 0, 0)).2.1 ∧
          stepD nc.2.1 per.2.1 (G.cells.getD c default).tag.2.1 (offsets.getD n (0, 0, 0)).2.1 < nc.2.1
      · exact Or.inr (Or.inr (wallDim_step per.2.2 n3 z0 z1 oz0 oz1 (fun w3 => hr ⟨w1, w2, w3⟩) (congrArg (·.2.2) ca)
          (congrArg (·.2.2) cb)))
      · exact Or.inr (Or.inl (wallDim_step per.2.1 n2 y0 y1 oy0 oy1 w2 (congrArg (·.2.1) ca) (congrArg (·.2.1) cb)))
    · exact Or.inl (wallDim_step per.1 n1 x0 x1 ox0 ox1 w1 (congrArg (·.1) ca) (congrArg (·.1) cb))

end Sympler.Grid
