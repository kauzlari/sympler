import Sympler.DataFormatStep
/-!
# Which errors an operation can end in (C14)

From a state satisfying the invariant no operation ever dereferences a freed cell (`ubUaf`), and
after `alignDataFor(a)` with `a ≥ 3` no operation touches a misaligned object (`ubMisaligned`).
Core Lean only.
-/
namespace Sympler.DataFormat

variable {al : Option Nat} {nc : NumCodec} {s : State} {d i : Nat}
  {dat : Data} {fid : Nat} {f : Format} {b : Block} {l : AttrAt} {v : Val} {e : Err} {h : Heap}

/-- the error is neither a use after free nor (when `alignDataFor(a)`, `a ≥ 3`, was called) a
    misaligned access -/
def Err.noUafNoMisaligned (al : Option Nat) (e : Err) : Prop :=
  e ≠ .ubUaf ∧ ∀ a, al = some a → 3 ≤ a → e ≠ .ubMisaligned

/-- the error is the literal `x` of the model's text, and `x` is neither of the two -/
theorem Err.noUafNoMisaligned.lit {α : Type} {x : Err} (h : (Except.error x : Except Err α) = .error e)
    (h1 : x ≠ .ubUaf := by decide) (h2 : x ≠ .ubMisaligned := by decide) : Err.noUafNoMisaligned al e := by
  cases h; exact ⟨h1, fun _ _ _ => h2⟩

/-- the error is `ubMisaligned`, raised by a test `c` that alignment rules out -/
theorem Err.noUafNoMisaligned.misaligned {α : Type} {c : Bool} (hc : c = true)
    (hal : ∀ n, al = some n → 3 ≤ n → c = false)
    (h : (Except.error .ubMisaligned : Except Err α) = .error e) : Err.noUafNoMisaligned al e := by
  cases h
  exact ⟨by decide, fun n h1 h2 _ => by rw [hal n h1 h2] at hc; cases hc⟩

theorem ite_eq_cases {α : Type} {c : Prop} [Decidable c] {a b r : α} (h : (if c then a else b) = r) :
    (c ∧ a = r) ∨ (¬ c ∧ b = r) := by
  by_cases hc : c
  · exact Or.inl ⟨hc, by rwa [if_pos hc] at h⟩
  · exact Or.inr ⟨hc, by rwa [if_neg hc] at h⟩

/-! ## Accessors -/

theorem getData_err (h : s.getData d = .error e) :
    Err.noUafNoMisaligned al e := by
  unfold State.getData at h
  split at h
  · cases h
  · exact .lit h

theorem getFmt_err {f : Nat} (h : s.getFmt f = .error e) :
    Err.noUafNoMisaligned al e := by
  unfold State.getFmt at h
  split at h
  · cases h
  · exact .lit h

theorem fmtOf_err (h : s.fmtOf dat = .error e) :
    Err.noUafNoMisaligned al e := by
  unfold State.fmtOf at h
  split at h
  · exact .lit h
  · split at h
    · rename_i e' he'
      cases h; exact getFmt_err he'
    · cases h

theorem attrAt_err (h : s.attrAt d i = .error e) :
    Err.noUafNoMisaligned al e := by
  unfold State.attrAt at h
  split at h
  · rename_i e' he'
    cases h; exact getData_err he'
  · split at h
    · exact .lit h
    · split at h
      · rename_i e' he'
        cases h; exact getFmt_err he'
      · split at h
        · exact .lit h
        · cases h

/-! ## Alignment after `alignDataFor(a)`, `a ≥ 3` -/

theorem sp_aligned (hs : Inv al s)
    (hf : s.fmts[fid]? = some f) (k : Nat) :
    ∀ n, al = some n → 3 ≤ n → spMisaligned (f.byIndex.take k) = false := by
  rintro n rfl hn
  exact spMisaligned_false_of_aligned hn (hs.fmts fid f hf) k

theorem sp_aligned_all (hs : Inv al s)
    (hf : s.fmts[fid]? = some f) :
    ∀ n, al = some n → 3 ≤ n → spMisaligned f.byIndex = false := by
  intro n hal hn
  have := sp_aligned hs hf f.byIndex.length n hal hn
  rwa [List.take_length] at this

theorem slot_err (hs : Inv al s)
    (hl : s.attrAt d i = .ok l) (h : l.slot i = .error e) : Err.noUafNoMisaligned al e := by
  obtain ⟨_, _, hf, ha⟩ := attrAt_ok hl
  unfold AttrAt.slot at h
  split at h
  · exact .lit h
  · split at h
    · exact .lit h
    · rcases ite_eq_cases h with ⟨hm, h⟩ | ⟨_, h⟩
      · exact .misaligned hm (fun n hal hn => by subst hal; exact ((hs.fmts _ _ hf).aligned hn ha).2) h
      · cases h

theorem allocSp_err (hs : Inv al s)
    (hf : s.fmts[fid]? = some f) (he : f.allocSp h = .error e) : Err.noUafNoMisaligned al e := by
  unfold Format.allocSp at he
  rcases ite_eq_cases he with ⟨hm, he⟩ | ⟨_, he⟩
  · simp only [Bool.and_eq_true] at hm
    exact .misaligned hm.2 (sp_aligned_all hs hf) he
  · cases he

/-! ## No smart pointer of a live record dangles -/

theorem slot_live (hs : Inv al s)
    {a : Nat} (hl : s.attrAt d i = .ok l) (hslot : l.slot i = .ok (b, v)) (ha : v.spAddr = some a) :
    ∃ c, s.heap.get a = some c := by
  obtain ⟨hd, _, _, _⟩ := attrAt_ok hl
  obtain ⟨hb, hv, _⟩ := slot_ok hslot
  have hvv : v = Val.sp (some a) := by
    cases v <;> simp [Val.spAddr] at ha
    rw [ha]
  obtain ⟨c, hc⟩ := hs.heap.live d a (by rw [valsOf_of_block hd hb]; exact ⟨i, by rw [hv, hvv]⟩)
  exact ⟨c, Heap.get_eq_some.2 hc⟩

theorem slot_resolves (hs : Inv al s)
    (hl : s.attrAt d i = .ok l) (hslot : l.slot i = .ok (b, v)) : ∃ r, resolve s.heap v = .ok r := by
  cases v with
  | sp p =>
    cases p with
    | none => exact ⟨none, rfl⟩
    | some adr =>
      obtain ⟨c, hc⟩ := slot_live hs hl hslot rfl
      exact ⟨some (.vec c.val), by simp [resolve, hc]⟩
  | str x => cases x <;> exact ⟨_, rfl⟩
  | _ => exact ⟨_, rfl⟩

theorem format_release_err (hs : Inv al s)
     (hd : s.datas[d]? = some (some dat)) (hfid : dat.fmt = some fid) (hf : s.fmts[fid]? = some f)
    (hr : f.release s.heap dat.block = .error e) : Err.noUafNoMisaligned al e := by
  cases hblk : dat.block with
  | none => rw [hblk] at hr; cases hr
  | some b =>
    rw [hblk] at hr
    simp only [Format.release] at hr
    rcases ite_eq_cases hr with ⟨hm, hr⟩ | ⟨_, hr⟩
    · exact .misaligned hm (sp_aligned hs hf _) hr
    · obtain ⟨hbo, hinj, hlive⟩ := hs.block hd hfid hf hblk
      rcases releaseVals_spec f.byIndex s.heap b.vals hbo.len hbo.typed hinj hlive with he | ⟨h', h1, _⟩
      · rw [he] at hr; exact .lit hr
      · rw [h1] at hr; cases hr

theorem releaseIfFmt_err (hs : Inv al s)
    (hd : s.datas[d]? = some (some dat)) (hr : releaseIfFmt s dat = .error e) : Err.noUafNoMisaligned al e := by
  unfold releaseIfFmt at hr
  split at hr
  · cases hr
  · rename_i fid hfid
    split at hr
    · rename_i e' he'
      cases hr; exact getFmt_err he'
    · rename_i f hf
      exact format_release_err hs hd hfid (getFmt_ok.1 hf) hr

/-- the checks before the `memcpy` of a block, as they stand in the copy constructor and (three
    times) in `operator=` -/
theorem memcpy_checks_err {α : Type} {stale : Prop}
    [Decidable stale] {k : Except Err α} (hsp : ∀ n, al = some n → 3 ≤ n → spMisaligned f.byIndex = false)
    (h : (if stale then .error .ubStale else if b.vals.any Val.isLiveStr = true then .error .ubStrCopy
          else if spMisaligned f.byIndex = true then .error .ubMisaligned else k) = .error e) :
    Err.noUafNoMisaligned al e ∨ (¬ stale ∧ k = .error e) := by
  rcases ite_eq_cases h with ⟨_, h⟩ | ⟨hst, h⟩
  · exact Or.inl (.lit h)
  rcases ite_eq_cases h with ⟨_, h⟩ | ⟨_, h⟩
  · exact Or.inl (.lit h)
  rcases ite_eq_cases h with ⟨hm, h⟩ | ⟨_, h⟩
  · exact Or.inl (.misaligned hm hsp h)
  · exact Or.inr ⟨hst, h⟩

theorem deepCopy_err (hs : Inv al s) {e0 : Nat} {src : Data}
    (hsrc : s.datas[e0]? = some (some src)) (hsf : src.fmt = some fid) (hsb : src.block = some b)
    (hf : s.fmts[fid]? = some f) (hfull : ¬ b.size < f.size)
    (hc : deepCopyVals s.heap f.byIndex b.vals b.vals = .error e) : Err.noUafNoMisaligned al e := by
  obtain ⟨hbo, _, hlive⟩ := hs.block hsrc hsf hf hsb
  have hlenb := hbo.full_of_not_lt (hs.fmts fid f hf) hfull
  rcases deepCopyVals_spec f.byIndex s.heap b.vals hlenb hbo.typed hlive with he | ⟨vs', h'', extra, h1, _⟩
  · rw [he] at hc; exact .lit hc
  · rw [h1] at hc; cases hc

/-! ## The operations -/

theorem copyData_err (hs : Inv al s) {e0 : Nat}
    (h : copyData s e0 = .error e) : Err.noUafNoMisaligned al e := by
  unfold copyData at h
  split at h
  · rename_i e' he'
    cases h; exact getData_err he'
  · rename_i src hsrc
    split at h
    · cases h
    · rename_i fid hfid
      split at h
      · rename_i e' he'
        cases h; exact getFmt_err he'
      · rename_i f hf
        rcases ite_eq_cases h with ⟨_, h⟩ | ⟨_, h⟩
        · cases h
        · split at h
          · exact .lit h
          · rename_i b hb
            rcases memcpy_checks_err (sp_aligned_all hs (getFmt_ok.1 hf)) h with he | ⟨hfull, h⟩
            · exact he
            · split at h
              · rename_i e' hc
                cases h; exact deepCopy_err hs (getData_ok.1 hsrc) hfid hb (getFmt_ok.1 hf) hfull hc
              · cases h

theorem assignData_err (hs : Inv al s) {e0 : Nat}
    (h : assignData s d e0 = .error e) : Err.noUafNoMisaligned al e := by
  unfold assignData at h
  split at h
  · rename_i e' he'
    cases h; exact getData_err he'
  · rename_i dst hdst
    have hdst' := getData_ok.1 hdst
    split at h
    · rename_i e' he'
      cases h; exact getData_err he'
    · rename_i src hsrc
      have hsrc' := getData_ok.1 hsrc
      rcases ite_eq_cases h with ⟨hne, h⟩ | ⟨_, h⟩
      · split at h
        · rename_i e' hrel
          cases h; exact releaseIfFmt_err hs hdst' (by unfold releaseIfFmt; exact hrel)
        · rename_i h1 hrel
          obtain ⟨_, hs1, hsrc1⟩ := hs.assign_dropped hdst' hsrc' hne (by unfold releaseIfFmt; exact hrel)
          split at h
          · cases h
          · rename_i fid hfid
            split at h
            · rename_i e' he'
              cases h; exact getFmt_err he'
            · rename_i f hf
              rcases ite_eq_cases h with ⟨_, h⟩ | ⟨_, h⟩
              · exact .lit h
              · split at h
                · exact .lit h
                · rename_i b hb
                  rcases memcpy_checks_err (sp_aligned_all hs (getFmt_ok.1 hf)) h with he | ⟨hfull, h⟩
                  · exact he
                  · split at h
                    · rename_i e' hc
                      cases h; exact deepCopy_err hs1 hsrc1 hfid hb (getFmt_ok.1 hf) hfull hc
                    · cases h
      · split at h
        · cases h
        · rename_i fid hfid
          split at h
          · rename_i e' he'
            cases h; exact getFmt_err he'
          · rename_i f hf
            split at h
            · rename_i db b hdb hb
              rcases memcpy_checks_err (sp_aligned_all hs (getFmt_ok.1 hf)) h with he | ⟨hst, h⟩
              · exact he
              · simp only [Bool.or_eq_true, decide_eq_true_eq, not_or] at hst
                split at h
                · rename_i e' hc
                  cases h; exact deepCopy_err hs hsrc' hfid hb (getFmt_ok.1 hf) hst.2 hc
                · cases h
            · exact .lit h

theorem addAttribute_err {al' : Option Nat} {n sym : String} {t : DType} {p : Bool}
    (h : f.addAttribute al n t p sym = .error e) : Err.noUafNoMisaligned al' e := by
  unfold Format.addAttribute at h
  split at h
  · cases h
  · rcases ite_eq_cases h with ⟨_, h⟩ | ⟨_, h⟩
    · exact .lit h
    · cases h

theorem dataAddAttribute_err (hs : Inv al s) {name symbol : String}
    {t : DType} {pers : Bool}
    (h : dataAddAttribute al s d name t pers symbol = .error e) : Err.noUafNoMisaligned al e := by
  unfold dataAddAttribute at h
  split at h
  · rename_i e' he'
    cases h; exact getData_err he'
  · split at h
    · rename_i e' he'
      cases h; exact fmtOf_err he'
    · rename_i fid f hfo
      split at h
      · rename_i e' he'
        cases h; exact addAttribute_err he'
      · rename_i attr f' hadd
        rcases ite_eq_cases h with ⟨_, h⟩ | ⟨hsz, h⟩
        · cases h
        · split at h
          · exact .lit h
          · rcases ite_eq_cases h with ⟨_, h⟩ | ⟨_, h⟩
            · exact .lit h
            · rcases ite_eq_cases h with ⟨hm, h⟩ | ⟨_, h⟩
              · simp only [Bool.and_eq_true] at hm
                refine .misaligned hm.2 ?_ h
                rintro n rfl hn
                -- the new attribute is the last one of the new format
                rcases Format.addAttribute_ok_cases hadd with ⟨_, _, hf'⟩ | ⟨_, _, hf'⟩
                · exact (((hs.fmts fid f (fmtOf_ok hfo).2).addAttribute hadd).aligned hn
                    (i := f.byIndex.length) (by rw [hf']; simp)).2
                · exact absurd (by rw [hf']) hsz
              · cases h

theorem clearData_err (hs : Inv al s) {all : Bool}
    (h : clearData all s d = .error e) : Err.noUafNoMisaligned al e := by
  unfold clearData at h
  split at h
  · rename_i e' he'
    cases h; exact getData_err he'
  · rename_i dat hdat
    split at h
    · rename_i e' he'
      cases h; exact fmtOf_err he'
    · rename_i fid x hfo
      obtain ⟨hfid, hf⟩ := fmtOf_ok hfo
      split at h
      · rcases ite_eq_cases h with ⟨_, h⟩ | ⟨_, h⟩
        · exact .lit h
        · cases h
      · rename_i b hb
        rcases ite_eq_cases h with ⟨hm, h⟩ | ⟨_, h⟩
        · -- a touched misaligned smart pointer is in particular a misaligned smart pointer
          refine .misaligned (c := spMisaligned (x.byIndex.take b.vals.length)) ?_ (sp_aligned hs hf _) h
          rw [List.any_eq_true] at hm
          obtain ⟨a, ha, hp⟩ := hm
          simp only [Bool.and_eq_true] at hp
          exact List.any_eq_true.2 ⟨a, ha, by simp only [Bool.and_eq_true]; exact ⟨hp.1.2, hp.2⟩⟩
        · split at h
          · rename_i e' hc
            obtain ⟨hbo, hinj, hlive⟩ := hs.block (getData_ok.1 hdat) hfid hf hb
            rcases clearVals_spec all x.byIndex s.heap b.vals hbo.len hbo.typed hinj hlive with he | ⟨vs', h'', h1, _⟩
            · rw [he] at hc; cases hc; exact .lit h
            · rw [h1] at hc; cases hc
          · cases h

theorem writeVal_err (hs : Inv al s)
    (hl : s.attrAt d i = .ok l) (h : writeVal s l d i v = .error e) : Err.noUafNoMisaligned al e := by
  unfold writeVal at h
  split at h
  · rename_i e' he'
    cases h; exact slot_err hs hl he'
  · rcases ite_eq_cases h with ⟨_, h⟩ | ⟨_, h⟩
    · exact .lit h
    · cases h

theorem read_err (hs : Inv al s)
    (h : s.read d i = .error e) : Err.noUafNoMisaligned al e := by
  unfold State.read at h
  split at h
  · rename_i e' he'
    cases h; exact attrAt_err he'
  · rename_i l hl
    split at h
    · rename_i e' he'
      cases h; exact slot_err hs hl he'
    · rename_i b v hslot
      obtain ⟨r, hr⟩ := slot_resolves hs hl hslot
      rw [hr] at h
      cases r with
      | none => exact .lit h
      | some r => cases h

theorem toText_err {t : DType} {r : RVal}
    (h : toText nc t r = .error e) : Err.noUafNoMisaligned al e := by
  unfold toText at h
  split at h <;> first | exact .lit h | cases h

theorem fromText_err {t : DType} {v : List Char}
    (h : fromText nc t v = .error e) : Err.noUafNoMisaligned al e := by
  unfold fromText at h
  split at h <;> first | exact .lit h | cases h

theorem toStrData_err (hs : Inv al s)
    (h : toStrData nc s d i = .error e) : Err.noUafNoMisaligned al e := by
  unfold toStrData at h
  split at h
  · rename_i e' he'
    cases h; exact attrAt_err he'
  · rename_i l hl
    rcases ite_eq_cases h with ⟨_, h⟩ | ⟨_, h⟩
    · exact .lit h
    · split at h
      · rename_i e' he'
        cases h; exact slot_err hs hl he'
      · rename_i b v hslot
        obtain ⟨r, hr⟩ := slot_resolves hs hl hslot
        rw [hr] at h
        cases r with
        | none => exact .lit h
        | some r => exact toText_err h

theorem pushData_err (hs : Inv al s) {el : Elem}
    (h : pushData s d i el = .error e) : Err.noUafNoMisaligned al e := by
  unfold pushData at h
  split at h
  · rename_i e' he'
    cases h; exact attrAt_err he'
  · rename_i l hl
    rcases ite_eq_cases h with ⟨_, h⟩ | ⟨_, h⟩
    · exact .lit h
    · split at h
      · rename_i e' he'
        cases h; exact slot_err hs hl he'
      · rename_i b v hslot
        split at h
        · exact .lit h
        · rename_i a ha
          split at h
          · rename_i hg
            obtain ⟨c, hc⟩ := slot_live hs hl hslot ha
            rw [hc] at hg; cases hg
          · cases h

theorem rcData_err (hs : Inv al s)
    (h : rcData s d i = .error e) : Err.noUafNoMisaligned al e := by
  unfold rcData at h
  split at h
  · rename_i e' he'
    cases h; exact attrAt_err he'
  · rename_i l hl
    rcases ite_eq_cases h with ⟨_, h⟩ | ⟨_, h⟩
    · exact .lit h
    · split at h
      · rename_i e' he'
        cases h; exact slot_err hs hl he'
      · rename_i b v hslot
        split at h
        · cases h
        · rename_i a ha
          split at h
          · rename_i hg
            obtain ⟨c, hc⟩ := slot_live hs hl hslot ha
            rw [hc] at hg; cases hg
          · cases h

theorem dumpData_err (h : dumpData s d = .error e) :
    Err.noUafNoMisaligned al e := by
  unfold dumpData at h
  split at h
  · rename_i e' he'
    cases h; exact getData_err he'
  · split at h
    · cases h
    · split at h
      · rename_i e' he'
        cases h; exact getFmt_err he'
      · split at h <;> cases h

theorem step_err {op : Op} (hs : Inv al s)
    (h : step al nc s op = .error e) : Err.noUafNoMisaligned al e := by
  cases op <;> simp only [step] at h
  case fmt | new0 | leakcheck => cases h
  case fmtcopy f | layout f =>
    split at h
    · rename_i e' he'
      cases h; exact getFmt_err he'
    · cases h
  case fadd f name t pers symbol =>
    split at h
    · rename_i e' he'
      cases h; exact getFmt_err he'
    · split at h
      · rename_i e' he'
        cases h; exact addAttribute_err he'
      · cases h
  case new f =>
    split at h
    · rename_i e' he'
      cases h; exact getFmt_err he'
    · rename_i x hx
      split at h
      · rename_i e' he'
        cases h; exact allocSp_err hs (getFmt_ok.1 hx) he'
      · cases h
  case copy e0 =>
    split at h
    · rename_i e' he'
      cases h; exact copyData_err hs he'
    · cases h
  case assign d e0 =>
    split at h
    · rename_i e' he'
      cases h; exact assignData_err hs he'
    · cases h
  case del d =>
    split at h
    · rename_i e' he'
      cases h; exact getData_err he'
    · rename_i dat hdat
      split at h
      · rename_i e' he'
        cases h; exact releaseIfFmt_err hs (getData_ok.1 hdat) he'
      · cases h
  case setfmt d f =>
    split at h
    · rename_i e' he'
      cases h; exact getData_err he'
    · rename_i dat hdat
      split at h
      · rename_i e' he'
        cases h; exact getFmt_err he'
      · rename_i x hx
        split at h
        · rename_i e' he'
          cases h; exact releaseIfFmt_err hs (getData_ok.1 hdat) he'
        · split at h
          · rename_i e' he'
            cases h; exact allocSp_err hs (getFmt_ok.1 hx) he'
          · cases h
  case release d =>
    split at h
    · rename_i e' he'
      cases h; exact getData_err he'
    · rename_i dat hdat
      split at h
      · rename_i e' he'
        cases h; exact fmtOf_err he'
      · rename_i fid x hfo
        split at h
        · rename_i e' he'
          cases h; exact format_release_err hs (getData_ok.1 hdat) (fmtOf_ok hfo).1 (fmtOf_ok hfo).2 he'
        · cases h
  case realloc d =>
    split at h
    · rename_i e' he'
      cases h; exact getData_err he'
    · rename_i dat hdat
      split at h
      · rename_i e' he'
        cases h; exact fmtOf_err he'
      · rename_i fid x hfo
        split at h
        · rename_i e' he'
          cases h; exact format_release_err hs (getData_ok.1 hdat) (fmtOf_ok hfo).1 (fmtOf_ok hfo).2 he'
        · split at h
          · rename_i e' he'
            cases h; exact allocSp_err hs (fmtOf_ok hfo).2 he'
          · cases h
  case dadd d name t pers symbol =>
    split at h
    · rename_i e' he'
      cases h; exact dataAddAttribute_err hs he'
    · cases h
  case clear d | clearall d =>
    split at h
    · rename_i e' he'
      cases h; exact clearData_err hs he'
    · cases h
  case protect d i | unprotect d i =>
    unfold protectData at h
    split at h
    · rename_i e' he'
      split at he'
      · rename_i e'' he''
        cases he'; cases h; exact attrAt_err he''
      · cases he'
    · cases h
  case set d i v =>
    split at h
    · rename_i e' he'
      cases h; exact attrAt_err he'
    · rename_i l hl
      rcases ite_eq_cases h with ⟨_, h⟩ | ⟨_, h⟩
      · exact .lit h
      · split at h
        · rename_i e' he'
          cases h; exact writeVal_err hs hl he'
        · cases h
  case get d i =>
    split at h
    · rename_i e' he'
      cases h; exact read_err hs he'
    · cases h
  case push d i el =>
    split at h
    · rename_i e' he'
      cases h; exact pushData_err hs he'
    · cases h
  case rc d i =>
    split at h
    · rename_i e' he'
      cases h; exact rcData_err hs he'
    · cases h
  case dump d =>
    split at h
    · rename_i e' he'
      cases h; exact dumpData_err he'
    · cases h
  case tostr d i =>
    split at h
    · rename_i e' he'
      cases h; exact toStrData_err hs he'
    · cases h
  case fromstr d i text =>
    unfold fromStrData at h
    split at h
    · rename_i e' he'
      cases h
      split at he'
      · rename_i e'' he''
        cases he'; exact attrAt_err he''
      · rename_i l hl
        split at he'
        · rename_i e'' he''
          cases he'; exact fromText_err he''
        · exact writeVal_err hs hl he'
    · cases h

end Sympler.DataFormat
