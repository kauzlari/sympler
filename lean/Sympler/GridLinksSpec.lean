import Sympler.GridLinksInv

/-!
From the loop invariant `LInv` to the propositional specification `LinksSpec` of the link list and to the executable check
`linksOKb`; the grid built by the loops of `cellSubdivide` satisfies `LinksSpec`.  Core Lean only.
-/
namespace Sympler.Grid
open Sympler Sympler.Cells Sympler.Gen.CellTables

/-! ### from the invariant to the executable check -/

theorem occupiesSlot_local {lk : LinkGeom} (h : lk.align = -1) (c m : Nat) : occupiesSlot lk c m = false := by
  unfold occupiesSlot
  simp [h]

/-- the final state of the neighbour loop, as propositions -/
structure LinksSpec (G : Grid) (per : V3 Bool) (N : Nat) : Prop where
  geo : GeoOK G.nc G.cells N
  wf : ∀ lk, lk ∈ G.links.toList → LinkWF N G.cells lk
  locals : LocalOK N G
  slot_some : ∀ c m t, c < N → m < 26 → nbr G.nc G.cells per c m = some t →
    G.links.toList.countP (represents · c m t) = 1 ∧ G.links.toList.countP (occupiesSlot · c m) = 1 ∧
    G.outAt c m = [t]
  slot_none : ∀ c m, c < N → m < 26 → nbr G.nc G.cells per c m = none →
    G.links.toList.countP (occupiesSlot · c m) = 0 ∧ G.outAt c m = []

theorem linksSpec_of_linv {G : Grid} {per : V3 Bool} {N : Nat} {C : Nat → Nat → Prop}
    (geo : GeoOK G.nc G.cells N) (h : LInv G.nc G.cells per N C G)
    (hall : ∀ c, c < N → ∀ n, n < 26 → ∀ t, nbr G.nc G.cells per c n = some t → C c n) : LinksSpec G per N := by
  refine ⟨geo, h.wf, h.locals, ?_, ?_⟩
  · intro c m t hc hm ht
    obtain ⟨t', e, r⟩ := h.cov c m hc hm (hall c hc m hm t ht)
    have : t' = t := by rw [ht] at e; exact (Option.some.inj e).symm
    subst this
    exact r
  · intro c m hc hm hnone
    apply h.ncov c m hc hm
    intro hC
    obtain ⟨t', e, _⟩ := h.cov c m hc hm hC
    rw [hnone] at e; simp at e

theorem linksSpec_linksOKb {G : Grid} {per : V3 Bool} (h : LinksSpec G per G.cells.size) :
    linksOKb G per = true := by
  unfold linksOKb
  simp only []
  rw [Bool.and_eq_true, Bool.and_eq_true]
  refine ⟨⟨?_, ?_⟩, ?_⟩
  · rw [List.all_eq_true]
    intro c hc
    rw [List.mem_range] at hc
    have h1 := h.locals.cnt c hc
    rw [List.countP_eq_length_filter] at h1
    obtain ⟨lk, e, a1, a2, a3, a4⟩ := h.locals.lk c hc
    rw [e]
    simp only [Bool.and_eq_true, beq_iff_eq]
    exact ⟨⟨h1, h.locals.loc c hc⟩, ⟨⟨a1, a2⟩, a3⟩, a4⟩
  · rw [List.all_eq_true]
    intro c hc
    rw [List.mem_range] at hc
    rw [List.all_eq_true]
    intro n hn
    rw [List.mem_range] at hn
    have hn : n < 26 := hn
    cases ht : nbr G.nc G.cells per c n with
    | some t =>
      obtain ⟨hr, rfl⟩ := nbr_some ht
      obtain ⟨b1, b2, b3⟩ := h.slot_some c n _ hc hn ht
      rw [List.countP_eq_length_filter] at b1 b2
      rw [if_pos hr]
      simp only [Bool.and_eq_true, beq_iff_eq]
      refine ⟨⟨⟨b1, b2⟩, ?_⟩, b3⟩
      rw [List.all_eq_true]
      intro lk hlk
      rw [List.mem_filter] at hlk
      rw [beq_iff_eq]
      rcases h.wf lk hlk.1 with w | w
      · have := rep_occ hn hlk.2
        rw [occupiesSlot_local w.1] at this
        exact absurd this (by simp)
      · exact w.2.2.2.2.2.2.2
    | none =>
      obtain ⟨b1, b2⟩ := h.slot_none c n hc hn ht
      rw [List.countP_eq_length_filter] at b1
      rw [if_neg (nbr_none ht)]
      simp only [Bool.and_eq_true, beq_iff_eq]
      exact ⟨b1, b2⟩
  · rw [List.all_eq_true]
    intro lk hlk
    rcases h.wf lk hlk with w | w
    · simp [w.1, w.2]
    · obtain ⟨w1, w2, w3, w4, w5, w6, w7, _⟩ := w
      simp [w1, w2, w3, w4, w5, w6, w7]

/-! ### the grid built by `cellSubdivide` -/

/-- the link-list theorem in the terms of the loop invariant (`nc` is cast to naturals because `mkCells_geo` is over `Nat`) -/
theorem buildGrid_linv (nc : V3 Int) (c1 c2 invWidth width : V3 Rat) (per : V3 Bool) (hnc : 2 ≤ nc.1 ∧ 2 ≤ nc.2.1 ∧ 2 ≤ nc.2.2) :
    ∃ N, GeoOK nc (mkCells nc c1 width) N ∧
      ∃ C : Nat → Nat → Prop, LInv nc (mkCells nc c1 width) per N C (buildGrid nc c1 c2 invWidth width per) ∧
        (∀ c, c < N → ∀ n, n < 26 → ∀ t, nbr nc (mkCells nc c1 width) per c n = some t → C c n) := by
  obtain ⟨a, b, c⟩ := nc
  obtain ⟨h1, h2, h3⟩ := hnc
  simp only [] at h1 h2 h3
  obtain ⟨nx, rfl⟩ := Int.eq_ofNat_of_zero_le (a := a) (by omega)
  obtain ⟨ny, rfl⟩ := Int.eq_ofNat_of_zero_le (a := b) (by omega)
  obtain ⟨nz, rfl⟩ := Int.eq_ofNat_of_zero_le (a := c) (by omega)
  have geo := mkCells_geo nx ny nz (by omega) (by omega) (by omega) c1 width
  refine ⟨nz * (ny * nx), geo, ?_⟩
  unfold buildGrid
  simp only []
  generalize hcells : mkCells ((nx : Int), (ny : Int), (nz : Int)) c1 width = cells at geo ⊢
  have hsize : cells.size = nz * (ny * nx) := geo.size
  rw [hsize]
  have hinit := foldl_init_inv (g0 := grid0 ((nx : Int), (ny : Int), (nz : Int)) c1 c2 invWidth cells) rfl (nz * (ny * nx))
  generalize (List.range (nz * (ny * nx))).foldl initCell _ = g1 at hinit
  obtain ⟨hcells1, hnc1, hnb1, hout1⟩ := initLoop_lists hinit
  have hocc1 : ∀ c m, g1.links.toList.countP (occupiesSlot · c m) = 0 := by
    intro c m
    rw [List.countP_eq_zero]
    intro lk hlk
    rw [occupiesSlot_local (hinit.all_local lk hlk).1]
    simp
  have hl : LInv ((nx : Int), (ny : Int), (nz : Int)) cells per (nz * (ny * nx)) (fun _ _ => False) g1 := by
    refine ⟨hcells1, hnc1, fun lk hlk => Or.inl (hinit.all_local lk hlk), ⟨?_, hinit.loc, hinit.lk⟩, ?_, ?_, ?_, ?_⟩
    · intro c hc
      rw [hinit.cnt c, if_pos hc]
    · intro c m _ _
      rw [hnb1, hocc1]; rfl
    · intro c m _ _ hC; exact absurd hC id
    · intro c m _ _ _
      exact ⟨hocc1 c m, hout1 c m⟩
    · intro c m t _ _ hC; exact absurd hC id
  obtain ⟨C, hC, _, hd⟩ := foldl_cells_linv geo per (List.range (nz * (ny * nx))) _ g1
    (fun i hi => List.mem_range.mp hi) hl (by rw [hinit.size]; exact Nat.le_refl _)
  exact ⟨C, hC, fun c hc n hn t ht => hd c (List.mem_range.mpr hc) n hn t ht⟩

theorem buildGrid_cells (nc : V3 Int) (c1 c2 invWidth width : V3 Rat) (per : V3 Bool) (N : Nat) (C : Nat → Nat → Prop)
    (h : LInv nc (mkCells nc c1 width) per N C (buildGrid nc c1 c2 invWidth width per)) :
    (buildGrid nc c1 c2 invWidth width per).cells = mkCells nc c1 width ∧
    (buildGrid nc c1 c2 invWidth width per).nc = nc := ⟨h.cells_eq, h.nc_eq⟩

/-- the grid built by the loops of `cellSubdivide` (at least two cells per direction) has a complete and unique
link list -/
theorem buildGrid_linksSpec (nc : V3 Int) (c1 c2 invWidth width : V3 Rat) (per : V3 Bool)
    (hnc : 2 ≤ nc.1 ∧ 2 ≤ nc.2.1 ∧ 2 ≤ nc.2.2) :
    (buildGrid nc c1 c2 invWidth width per).cells = mkCells nc c1 width ∧
    (buildGrid nc c1 c2 invWidth width per).nc = nc ∧
    LinksSpec (buildGrid nc c1 c2 invWidth width per) per (buildGrid nc c1 c2 invWidth width per).cells.size := by
  obtain ⟨N, geo, C, hC, hall⟩ := buildGrid_linv nc c1 c2 invWidth width per hnc
  have e1 := hC.cells_eq
  have e2 := hC.nc_eq
  refine ⟨e1, e2, ?_⟩
  have hN : (buildGrid nc c1 c2 invWidth width per).cells.size = N := by rw [e1]; exact geo.size
  rw [hN]
  apply linksSpec_of_linv (C := C)
  · rw [e1, e2]; exact geo
  · rw [e1, e2]; exact hC
  · rw [e1, e2]; exact hall

end Sympler.Grid
