import Sympler.Basic

/-!
# `Dyn` — executable model of one sympler time step at the physics level

Shared model of the properties C04 (reciprocal pair forces), C05 (time integration),
C07 (pair sums) and C10 (frozen particles).

Mirrors (file / function of /repo/source):

* `src/basic/controller.cpp`  `Controller::run` (part before the main loop) → `init`,
  `Controller::integrate` → `step`, `Controller::runSymbols` → `runSymbols`
* `src/integrator/integrator_velocity_verlet.cpp` `integratePosition`, `integrateVelocity`,
  `integrateStep2`; `src/basic/cell.cpp` `Cell::updatePositions`, `checkNewPosition` → `vvStep1`, `vvStep2`, `wrap`
* `src/integrator/integrator_scalar.cpp`, `integrator_vector.cpp` `integrateStep1`, `unprotect`,
  `isAboutToStart` → `eulerStep1`, `unprotect`
* `include/force/f_pair_vels.h`, `src/force/f_pair_scalar.cpp`, `f_pair_vector.cpp`
  `computeForces(Pairdist*, int)`; `include/symbol/val_calculator_part/pair_particle_scalar.h`,
  `pair_particle_vector.h` `compute(Pairdist*)` → `pairOp` (ONE kernel: all of them have the shape
  `if (abs < cutoff) { F = expr; fi = factor_i ∘ F; fj = factor_j ∘ F; if (actsOnFirst) first += fi;
  if (actsOnSecond) second += symmetry * fj; }`)
* `src/force/f_particle_vels.cpp`, `f_particle_scalar.cpp`, `f_particle_vector.cpp`
  `computeForces(Particle*, int)`  (`+=`) and `particle_scalar.h`, `particle_vector.h` `computeCacheFor` (`=`) → `partOp`
* `src/basic/phase.cpp` `clearParticleData` → `Cell::clearTags` → `DataFormat::clear` → `clearParticleData`

## Representation decisions (all checked by the correspondence `sim/corr_dyn.py`)

* Every value is a `Vec3` of rationals; a C++ `double` attribute `q` is the vector `(q,0,0)`
  (`Vec3.ofScalar`).  The product of two scalars is then the component-wise product, exactly as the
  component-wise product of `point_t`s used by `FPairVels` / `PairParticleVector`.  The typing of
  expressions (scalar / vector) is checked separately (`Expr.ty`), the driver rejects ill-typed input.
* The force buffers `Particle::force[0..1]` and every attribute of the particle tag live in ONE map
  `tag : Key → Vec3`; `Key.force Dof.vel k` is `force[k]`, `Key.force (Dof.user s) k` is the tag
  attribute `force_<s>_<k>` of `IntegratorScalar/Vector`, `Key.sym s` is the attribute named `s`.
* The persistence flag belongs to the `DataFormat` of a colour, not to a particle: `State.pers`.
* Neighbour relation = brute force over all ordered index pairs `(a,b)`, minimum image convention;
  the pair is in the list of colour pair `(c1,c2)` with `a` as FIRST particle iff
  `colour a = c1`, `colour b = c2`, (`c1 ≠ c2` or `a < b`), not both frozen, `|d|² < listCutoff²`.
  (Cell subdivision and Verlet lists: properties C01/C02.)  For `c1 = c2` the real orientation depends
  on the cell geometry; the model takes the index order.  The result is orientation independent
  whenever the expression has the symmetry the user declares with `symmetry` (first/second
  contributions swap); the correspondence generates only such expressions for equal colours, and
  arbitrary (asymmetric) ones for different colours, where the orientation is fixed by the colours.
* Loops over pairs/particles run in index order; the real order (cell order) differs, which is
  irrelevant in exact arithmetic because every write in these loops is a `+=` on a slot that
  no expression of the same phase reads (hypotheses `hR` of `pairPhase_spec`, `SumOK.noRAW`;
  guaranteed by the stage assignment, property C06; forces write force slots, which no expression
  can read at all).
* Walls/reflectors are NOT modelled: `wallFree` tells whether all free particles are inside the box
  in the non-periodic directions; the driver reports `err:wall` otherwise.

Core Lean only.
-/
namespace Sympler.Dyn

/-! ### vectors -/

structure Vec3 where
  x : Rat
  y : Rat
  z : Rat
deriving DecidableEq, Repr, Inhabited

namespace Vec3
instance : Zero Vec3 := ⟨⟨0, 0, 0⟩⟩
instance : Add Vec3 := ⟨fun a b => ⟨a.x + b.x, a.y + b.y, a.z + b.z⟩⟩
instance : Sub Vec3 := ⟨fun a b => ⟨a.x - b.x, a.y - b.y, a.z - b.z⟩⟩
instance : Neg Vec3 := ⟨fun a => ⟨-a.x, -a.y, -a.z⟩⟩
instance : HSMul Rat Vec3 Vec3 := ⟨fun c a => ⟨c * a.x, c * a.y, c * a.z⟩⟩
/-- component-wise product (`fi[i] *= temp[i]`) -/
def cmul (a b : Vec3) : Vec3 := ⟨a.x * b.x, a.y * b.y, a.z * b.z⟩
def dot (a b : Vec3) : Rat := a.x * b.x + a.y * b.y + a.z * b.z
def norm2 (a : Vec3) : Rat := dot a a
/-- embedding of a C++ `double` -/
def ofScalar (q : Rat) : Vec3 := ⟨q, 0, 0⟩
def comp (a : Vec3) (k : Nat) : Rat := if k = 0 then a.x else if k = 1 then a.y else a.z
end Vec3

/-! ### particles and state -/

/-- degree of freedom a force drives: the velocity, or a user-defined integrated quantity -/
inductive Dof where
  | vel
  | user (name : String)
deriving DecidableEq, Repr, Inhabited

/-- storage cell of a particle (see the header) -/
inductive Key where
  | sym (name : String)
  | force (d : Dof) (k : Bool)
deriving DecidableEq, Repr, Inhabited

structure Particle where
  colour : Nat
  slot : Nat
  frozen : Bool
  r : Vec3
  v : Vec3
  tag : Key → Vec3

instance : Inhabited Particle := ⟨⟨0, 0, true, 0, 0, fun _ => 0⟩⟩

def Particle.setTag (p : Particle) (k : Key) (x : Vec3) : Particle :=
  { p with tag := fun k' => if k' = k then x else p.tag k' }

/-- `attr += x` -/
def Particle.addTag (p : Particle) (k : Key) (x : Vec3) : Particle :=
  p.setTag k (p.tag k + x)

/-- simulation state: particles `0 … n-1` (canonical order: colour, free before frozen, slot),
`Controller::m_force_index`, persistence flag of every (colour, attribute) -/
structure State where
  n : Nat
  ps : Nat → Particle
  forceIdx : Bool
  pers : Nat → Key → Bool

/-- replace particle `i` by `f (particle i)` -/
def State.modify (st : State) (i : Nat) (f : Particle → Particle) : State :=
  { st with ps := fun k => if k = i then f (st.ps i) else st.ps k }

/-- `FOR_EACH_FREE_PARTICLE(… body …)` for a body that touches only its own particle -/
def State.mapFree (st : State) (f : Particle → Particle) : State :=
  { st with ps := fun k => if (st.ps k).frozen then st.ps k else f (st.ps k) }

/-! ### expressions (a fragment of the runtime-compiled expression language) -/

inductive Who where
  | i
  | j
deriving DecidableEq, Repr, Inhabited

inductive Ty where
  | s
  | v
deriving DecidableEq, Repr, Inhabited

/-- pair context: `[rij] [ri] [rj] [vi] [vj]`, symbols `ai`, `[ai]`, `aj`, `[aj]`;
particle context: `[r] [v]`, symbols `a`, `[a]` (= `Who.i`, no `rij`, no `Who.j`) -/
inductive Expr where
  | num (q : Rat)
  | vec (c : Vec3)
  | rij
  | pos (w : Who)
  | vel (w : Who)
  | tag (w : Who) (name : String)
  | add (a b : Expr)
  | sub (a b : Expr)
  | neg (a : Expr)
  /-- `*` between two scalars or two vectors (component-wise) -/
  | mul (a b : Expr)
  /-- `*` between a scalar and a vector -/
  | smul (a b : Expr)
  /-- `:` scalar product -/
  | dot (a b : Expr)
  /-- `xCoord`, `yCoord`, `zCoord` -/
  | comp (k : Nat) (a : Expr)
deriving DecidableEq, Repr, Inhabited

/-- what an expression can see of the pair (or of the single particle) -/
structure Env where
  rij : Vec3
  ri : Vec3
  vi : Vec3
  rj : Vec3
  vj : Vec3
  ti : String → Vec3
  tj : String → Vec3

def Expr.eval (env : Env) : Expr → Vec3
  | .num q => Vec3.ofScalar q
  | .vec c => c
  | .rij => env.rij
  | .pos .i => env.ri
  | .pos .j => env.rj
  | .vel .i => env.vi
  | .vel .j => env.vj
  | .tag .i n => env.ti n
  | .tag .j n => env.tj n
  | .add a b => a.eval env + b.eval env
  | .sub a b => a.eval env - b.eval env
  | .neg a => - a.eval env
  | .mul a b => Vec3.cmul (a.eval env) (b.eval env)
  | .smul a b => (a.eval env).x • b.eval env
  | .dot a b => Vec3.ofScalar (Vec3.dot (a.eval env) (b.eval env))
  | .comp k a => Vec3.ofScalar ((a.eval env).comp k)

/-- does the expression read a velocity? -/
def Expr.usesVel : Expr → Bool
  | .vel _ => true
  | .add a b | .sub a b | .mul a b | .smul a b | .dot a b => a.usesVel || b.usesVel
  | .neg a | .comp _ a => a.usesVel
  | _ => false

/-- symbols (tag attributes) read by the expression -/
def Expr.reads : Expr → List String
  | .tag _ n => [n]
  | .add a b | .sub a b | .mul a b | .smul a b | .dot a b => a.reads ++ b.reads
  | .neg a | .comp _ a => a.reads
  | _ => []

/-- does the expression refer to the second particle or to the pair distance? -/
def Expr.usesJ : Expr → Bool
  | .rij | .pos .j | .vel .j | .tag .j _ => true
  | .add a b | .sub a b | .mul a b | .smul a b | .dot a b => a.usesJ || b.usesJ
  | .neg a | .comp _ a => a.usesJ
  | _ => false

/-- type of an expression; `none` = the real parser/typer rejects it -/
def Expr.ty (sym : Who → String → Option Ty) : Expr → Option Ty
  | .num _ => some .s
  | .vec _ => some .v
  | .rij | .pos _ | .vel _ => some .v
  | .tag w n => sym w n
  | .add a b | .sub a b | .mul a b =>
    match a.ty sym, b.ty sym with
    | some t, some t' => if t = t' then some t else none
    | _, _ => none
  | .neg a => a.ty sym
  | .smul a b =>
    match a.ty sym, b.ty sym with
    | some .s, some .v => some .v
    | _, _ => none
  | .dot a b =>
    match a.ty sym, b.ty sym with
    | some .v, some .v => some .s
    | _, _ => none
  | .comp k a =>
    match a.ty sym with
    | some .v => if k < 3 then some .s else none
    | _ => none

/-! ### configuration (the module list of the input file) -/

structure Box where
  len : Vec3
  perX : Bool
  perY : Bool
  perZ : Bool
deriving Repr, Inhabited

inductive Integrator where
  /-- `IntegratorVelocityVerlet species lambda mass` -/
  | vv (colour : Nat) (lambda mass : Rat)
  /-- `IntegratorScalar` / `IntegratorVector species scalar|vector` (identical code up to the data type) -/
  | euler (colour : Nat) (name : String)
deriving DecidableEq, Repr, Inhabited

/-- where a module writes: a symbol, or the force buffer (chosen by the force index) of a dof -/
inductive Target where
  | sym (name : String)
  | force (d : Dof)
deriving DecidableEq, Repr, Inhabited

def Target.key (t : Target) (k : Bool) : Key :=
  match t with
  | .sym n => .sym n
  | .force d => .force d k

/-- pair module: `FPairVels/FPairScalar/FPairVector` (target `force …`, `stage` unused) or
`PairParticleScalar/PairParticleVector` (target `sym …`).  `c1 ≤ c2` are first and second colour of
the ColourPair (NOT `species1/species2` of the input, which may be swapped for forces). -/
structure PairMod where
  c1 : Nat
  c2 : Nat
  stage : Nat
  target : Target
  cutoff : Rat
  /-- `m_symmetry` as a number: `1` or `-1` -/
  sym : Rat
  expr : Expr
  fi : Expr
  fj : Expr
deriving DecidableEq, Repr, Inhabited

/-- one-particle module: `FParticleVels/Scalar/Vector` (`assign = false`, target `force …`) or
`ParticleScalar/ParticleVector` (`assign = true`, target `sym …`) -/
structure PartMod where
  colour : Nat
  stage : Nat
  target : Target
  assign : Bool
  expr : Expr
deriving DecidableEq, Repr, Inhabited

structure Config where
  box : Box
  dt : Rat
  integrators : List Integrator
  caches : List PartMod
  sums : List PairMod
  pairForces : List PairMod
  partForces : List PartMod
deriving Repr, Inhabited

def Target.isForce : Target → Bool
  | .force _ => true
  | .sym _ => false

/-- the shape every configuration built from an input file has (checked by the driver): forces write
force slots with `+=`, pair sums write symbols with `+=`, particle caches assign symbols -/
def Config.wf (cfg : Config) : Bool :=
  cfg.pairForces.all (fun m => m.target.isForce)
    && cfg.partForces.all (fun m => m.target.isForce && !m.assign)
    && cfg.sums.all (fun m => !m.target.isForce)
    && cfg.caches.all (fun m => !m.target.isForce && m.assign)

/-! ### geometry -/

/-- `g_geom_eps` (geometric_primitives.cpp) -/
def geomEps : Rat := 1 / 10000000000

/-- `Cell::checkNewPosition` for one coordinate: a particle leaves its cell when
`!(isInsideEps)`, i.e. `x < corner1 - eps` or `x >= corner2 + eps`; across a periodic box face the
outlet cell shifts it by the box length.  (Exactly on the face and leaving the cell in ANOTHER
direction at the same time: the real code shifts as well — not modelled, the correspondence excludes
runs that land within `1e-9` of a face.) -/
def wrap1 (per : Bool) (L x : Rat) : Rat :=
  if per then (if x < -geomEps then x + L else if x ≥ L + geomEps then x - L else x) else x

def wrap (b : Box) (r : Vec3) : Vec3 :=
  ⟨wrap1 b.perX b.len.x r.x, wrap1 b.perY b.len.y r.y, wrap1 b.perZ b.len.z r.z⟩

/-- minimum image of a coordinate difference -/
def minimg1 (per : Bool) (L d : Rat) : Rat :=
  if per then (if d > L / 2 then d - L else if d < -(L / 2) then d + L else d) else d

def minimg (b : Box) (d : Vec3) : Vec3 :=
  ⟨minimg1 b.perX b.len.x d.x, minimg1 b.perY b.len.y d.y, minimg1 b.perZ b.len.z d.z⟩

/-- `[rij] = [ri] - [rj]` of the pair (first `p`, second `q`) -/
def dist (b : Box) (p q : Particle) : Vec3 := minimg b (p.r - q.r)

def mkEnv (b : Box) (p q : Particle) : Env :=
  ⟨dist b p q, p.r, p.v, q.r, q.v, fun n => p.tag (.sym n), fun n => q.tag (.sym n)⟩

/-- particle context: only `Who.i` is meaningful (`Expr.usesJ = false` is checked by the driver) -/
def envP (p : Particle) : Env :=
  ⟨0, p.r, p.v, p.r, p.v, fun n => p.tag (.sym n), fun n => p.tag (.sym n)⟩

/-! ### pair modules -/

def maxCut (c1 c2 : Nat) (acc : Rat) (ms : List PairMod) : Rat :=
  ms.foldl (fun a m => if m.c1 = c1 ∧ m.c2 = c2 then (if a < m.cutoff then m.cutoff else a) else a) acc

/-- `ColourPair::setCutoff`: the list cutoff of a colour pair is the maximum over its modules -/
def listCutoff (cfg : Config) (c1 c2 : Nat) : Rat :=
  maxCut c1 c2 (maxCut c1 c2 0 cfg.pairForces) cfg.sums

/-- is `(a, b)` (first `a`, second `b`) an entry of the pair list of colour pair `(c1, c2)`? -/
def inList (cfg : Config) (st : State) (c1 c2 : Nat) (a b : Nat) : Bool :=
  let p := st.ps a
  let q := st.ps b
  a ≠ b && p.colour = c1 && q.colour = c2 && (c1 ≠ c2 || a < b) && !(p.frozen && q.frozen)
    && decide ((dist cfg.box p q).norm2 < listCutoff cfg c1 c2 * listCutoff cfg c1 c2)

/-- own cutoff test of the module: `if (pair->abs() < m_cutoff)` -/
def inCut (cfg : Config) (m : PairMod) (p q : Particle) : Bool :=
  decide ((dist cfg.box p q).norm2 < m.cutoff * m.cutoff)

/-- contribution to the FIRST particle: `factor_i ∘ expr` -/
def PairMod.first (m : PairMod) (env : Env) : Vec3 := Vec3.cmul (m.fi.eval env) (m.expr.eval env)

/-- contribution to the SECOND particle: `symmetry * (factor_j ∘ expr)` -/
def PairMod.second (m : PairMod) (env : Env) : Vec3 := m.sym • Vec3.cmul (m.fj.eval env) (m.expr.eval env)

/-- `computeForces(Pairdist*, force_index)` / `compute(Pairdist*)` for the list entry `(a, b)`;
`k` = force buffer to write (irrelevant for symbols). -/
def pairOp (cfg : Config) (k : Bool) (m : PairMod) (a b : Nat) (st : State) : State :=
  if inList cfg st m.c1 m.c2 a b && inCut cfg m (st.ps a) (st.ps b) then
    let env := mkEnv cfg.box (st.ps a) (st.ps b)
    let p := st.ps a
    let q := st.ps b
    -- `if (pair->actsOnFirst())` : the first particle is free
    let st1 := if !p.frozen then st.modify a (fun p => p.addTag (m.target.key k) (m.first env)) else st
    -- `if (pair->actsOnSecond())`
    if !q.frozen then st1.modify b (fun q => q.addTag (m.target.key k) (m.second env)) else st1
  else st

/-- all ordered index pairs of `0 … n-1` -/
def allPairs (n : Nat) : List (Nat × Nat) :=
  (List.range n).flatMap (fun a => (List.range n).map (fun b => (a, b)))

/-- loop over the pairs, inner loop over the modules (`for pair … for force …`) -/
def pairPhase (cfg : Config) (k : Bool) (ms : List PairMod) (st : State) : State :=
  (allPairs st.n).foldl (fun st ab => ms.foldl (fun st m => pairOp cfg k m ab.1 ab.2 st) st) st

/-! ### one-particle modules -/

/-- `computeForces(Particle*, force_index)` (`+=`) or `computeCacheFor(Particle*)` (`=`) -/
def partOp (k : Bool) (m : PartMod) (p : Particle) : Particle :=
  if p.colour = m.colour then
    (if m.assign then p.setTag (m.target.key k) (m.expr.eval (envP p))
     else p.addTag (m.target.key k) (m.expr.eval (envP p)))
  else p

/-- for every free particle: all modules of its colour, in registration order -/
def partPhase (k : Bool) (ms : List PartMod) (st : State) : State :=
  st.mapFree (fun p => ms.foldl (fun p m => partOp k m p) p)

/-! ### symbols -/

def maxStage (cfg : Config) : Nat :=
  (cfg.caches.map (·.stage) ++ cfg.sums.map (·.stage)).foldl max 0

/-- one round of the `while` loop of `Controller::runSymbols`: particle caches of this stage
(free particles only), then the non-bonded pair calculators of this stage -/
def runStage (cfg : Config) (s : Nat) (st : State) : State :=
  let st1 := partPhase false (cfg.caches.filter (·.stage = s)) st
  pairPhase cfg false (cfg.sums.filter (·.stage = s)) st1

def runSymbols (cfg : Config) (st : State) : State :=
  (List.range (maxStage cfg + 1)).foldl (fun st s => runStage cfg s st) st

/-! ### persistence, clearing -/

/-- Is `k` an attribute of the particle tag (and so subject to `DataFormat::clear`)?
`force[0..1]` of the velocity are members of `Particle`, not of the tag. -/
def Key.inTag : Key → Bool
  | .force .vel _ => false
  | _ => true

/-- `Phase::clearParticleData` → `Cell::clearTags` (free particles registered in cells) →
`DataFormat::clear`: zero every attribute with `persistent == false` -/
def clearParticleData (st : State) : State :=
  st.mapFree (fun p => { p with tag := fun k => if k.inTag && !st.pers p.colour k then 0 else p.tag k })

/-- `FOR_EACH_FREE_PARTICLE(__iSLFE->clear(other))` -/
def clearForce (k : Bool) (st : State) : State :=
  st.mapFree (fun p => p.setTag (.force .vel k) 0)

def hasFree (st : State) (c : Nat) : Bool :=
  (List.range st.n).any (fun i => (st.ps i).colour = c && !(st.ps i).frozen)

/-- `Integrator::unprotect(index)`: position integrators do nothing;
`IntegratorScalar::unprotect`: for each free particle of the colour (the flag lives in the format, so
once is enough — and nothing happens when the colour has no free particle):
`unprotect(force_<s>_<index>)`, `protect(force_<s>_<the other>)`. -/
def unprotect (k : Bool) (st : State) (ig : Integrator) : State :=
  match ig with
  | .vv _ _ _ => st
  | .euler c name =>
    if hasFree st c then
      { st with pers := fun c' key =>
          if c' = c ∧ key = .force (.user name) k then false
          else if c' = c ∧ key = .force (.user name) (!k) then true
          else st.pers c' key }
    else st

/-! ### integrators -/

/-- `Cell::updatePositions(integrator)`: `integratePosition` (`accel = force[idx]/m`,
`r += dt*(v + 0.5*dt*accel)`), `integrateVelocity` (`v += lambda*(dt*force[idx]/m)`),
`checkNewPosition` (periodic wrap) — for one free particle of the integrator's colour -/
def vvStep1 (b : Box) (dt lambda mass : Rat) (idx : Bool) (p : Particle) : Particle :=
  let f := p.tag (.force .vel idx)
  let accel := (1 / mass) • f
  let r' := p.r + dt • (p.v + ((1 / 2 : Rat) * dt) • accel)
  let v' := p.v + lambda • (dt • ((1 / mass) • f))
  { p with r := wrap b r', v := v' }

/-- `IntegratorVelocityVerlet::integrateStep2` with the NEW force index `idx`:
`if (lambda != 0.5) v += dt*(0.5-lambda)*force[other]/m;  v += dt/2*force[idx]/m` -/
def vvStep2 (dt lambda mass : Rat) (idx : Bool) (p : Particle) : Particle :=
  let p1 := if lambda ≠ 1 / 2 then
      { p with v := p.v + (dt * (1 / 2 - lambda)) • ((1 / mass) • p.tag (.force .vel (!idx))) }
    else p
  { p1 with v := p1.v + (dt / 2) • ((1 / mass) • p1.tag (.force .vel idx)) }

/-- `IntegratorScalar::integrateStep1`: `s += dt * force_s_[idx]` -/
def eulerStep1 (dt : Rat) (name : String) (idx : Bool) (p : Particle) : Particle :=
  p.addTag (.sym name) (dt • p.tag (.force (.user name) idx))

def onColour (c : Nat) (f : Particle → Particle) (p : Particle) : Particle :=
  if p.colour = c then f p else p

def integ1 (cfg : Config) (st : State) (ig : Integrator) : State :=
  match ig with
  | .vv c lambda mass => st.mapFree (onColour c (vvStep1 cfg.box cfg.dt lambda mass st.forceIdx))
  | .euler c name => st.mapFree (onColour c (eulerStep1 cfg.dt name st.forceIdx))

def integ2 (cfg : Config) (st : State) (ig : Integrator) : State :=
  match ig with
  | .vv c lambda mass => st.mapFree (onColour c (vvStep2 cfg.dt lambda mass st.forceIdx))
  | .euler _ _ => st

/-! ### the time step -/

/-- everything between `integrateStep1` and the force loops: clear buffer `other`, `unprotect(other)`,
`clearParticleData`, (neighbour update,) `runSymbols` -/
def preForce (cfg : Config) (other : Bool) (st : State) : State :=
  let st2 := clearForce other st
  let st3 := cfg.integrators.foldl (unprotect other) st2
  let st4 := clearParticleData st3
  runSymbols cfg st4

/-- pair forces, then particle forces, into buffer `k` -/
def forces (cfg : Config) (k : Bool) (st : State) : State :=
  partPhase k cfg.partForces (pairPhase cfg k cfg.pairForces st)

/-- `Controller::integrate` -/
def step (cfg : Config) (st : State) : State :=
  let st1 := cfg.integrators.foldl (integ1 cfg) st
  let other := !st.forceIdx
  let st5 := preForce cfg other st1
  let st7 := forces cfg other st5
  let st8 := { st7 with forceIdx := other }
  cfg.integrators.foldl (integ2 cfg) st8

/-- `isAboutToStart`: `IntegratorPosition` zeroes `force[0..1]`, `IntegratorScalar` zeroes its two force attributes -/
def aboutToStart (st : State) (ig : Integrator) : State :=
  match ig with
  | .vv c _ _ =>
    st.mapFree (onColour c (fun p => (p.setTag (.force .vel false) 0).setTag (.force .vel true) 0))
  | .euler c name =>
    st.mapFree (onColour c (fun p => (p.setTag (.force (.user name) false) 0).setTag (.force (.user name) true) 0))

/-- `Controller::run` before the main loop: zero both force buffers of all free particles,
`isAboutToStart` of every integrator, `clearParticleData`, `runSymbols`, pair forces and
particle forces into buffer `m_force_index` -/
def init (cfg : Config) (st : State) : State :=
  let st1 := clearForce true (clearForce false st)
  let st2 := cfg.integrators.foldl aboutToStart st1
  let st3 := clearParticleData st2
  let st4 := runSymbols cfg st3
  forces cfg st.forceIdx st4

def run (cfg : Config) : Nat → State → State
  | 0, st => st
  | n + 1, st => step cfg (run cfg n st)

/-- all free particles inside the box in the non-periodic directions (no wall is modelled) -/
def wallFree (b : Box) (st : State) : Bool :=
  (List.range st.n).all (fun i =>
    let p := st.ps i
    p.frozen ||
      ((b.perX || (0 < p.r.x && p.r.x < b.len.x)) && (b.perY || (0 < p.r.y && p.r.y < b.len.y))
        && (b.perZ || (0 < p.r.z && p.r.z < b.len.z))))

end Sympler.Dyn
