import Sympler.DataFormatInv
/-!
# What a successful operation leaves behind (C14)

Every operation keeps the invariant, changes only its target record (`Frame`), and only
`operator=` extends the ghost list of leaked cells.  Core Lean only.
-/
namespace Sympler.DataFormat

variable {al : Option Nat} {nc : NumCodec} {s s' : State} {d i : Nat}

theorem mem_filterMap_spAddr {vs : List Val} {a : Nat} : a ∈ vs.filterMap Val.spAddr ↔ owns vs a := by
  rw [List.mem_filterMap]
  constructor
  · rintro ⟨v, hv, hs⟩
    obtain ⟨k, hk⟩ := List.mem_iff_getElem?.1 hv
    exact ⟨k, Val.spAddr_eq_some.1 hs ▸ hk⟩
  · rintro ⟨k, hk⟩
    exact ⟨_, List.mem_of_getElem? hk, rfl⟩

theorem HeapOk.sameDatas (hs : HeapOk s) (fmts' : List Format) :
    HeapOk ⟨fmts', s.datas, s.heap, s.leaked⟩ :=
  hs.congr fmts' s.datas (fun _ _ _ => Iff.rfl)

theorem Inv.setFmt (hs : Inv al s) {fid : Nat} {f f' : Format}
    (hf : s.fmts[fid]? = some f) (hok : FormatOk al f') (hext : f.layoutKept f') :
    Inv al (s.setFmt fid f') := by
  refine ⟨fun k x hx => ?_, fun d dat hd => ?_, hs.heap.sameDatas _⟩
  · have hx : (s.fmts.set fid f')[k]? = some x := hx
    by_cases hk : fid = k
    · subst hk
      rw [List.getElem?_set_self (lt_of_getElem?_some hf)] at hx
      cases hx; exact hok
    · exact hs.fmts k x ((List.getElem?_set_ne hk).symm.trans hx)
  · exact (hs.datas d dat hd).mono_fmts (fun f0 hf0 => by cases hf.symm.trans hf0; exact hext)

theorem Inv.appendFmt (hs : Inv al s) {f' : Format} (hok : FormatOk al f') :
    Inv al { s with fmts := s.fmts ++ [f'] } := by
  refine ⟨fun k x hx => ?_, fun d dat hd => (hs.datas d dat hd).mono_append, hs.heap.sameDatas _⟩
  rcases getElem?_concat_eq_some.1 hx with hx | ⟨_, rfl⟩
  · exact hs.fmts k x hx
  · exact hok

theorem Inv.appendNoBlock (hs : Inv al s) {fm : Option Nat}
    (hfm : ∀ fid, fm = some fid → ∃ f, s.fmts[fid]? = some f) :
    Inv al { s with datas := s.datas ++ [some ⟨fm, none⟩] } := by
  have ho := OnlyAt.append s.datas (some ⟨fm, none⟩)
  refine ⟨hs.fmts, datasOk_onlyAt hs ho fun dat hdat => ?_, hs.heap.congr _ _ fun x k a => ?_⟩
  · cases hdat; exact dataOk_noblock hfm
  · by_cases hx : x = s.datas.length
    · rw [hx, ho.valsOf_self_noblock, valsOf_length_nil]
    · rw [ho.valsOf_other x hx]

def LayoutKept (fmts fmts' : List Format) : Prop :=
  ∀ (fid : Nat) (f : Format), fmts[fid]? = some f → ∃ f' : Format, fmts'[fid]? = some f' ∧ f.layoutKept f'

theorem LayoutKept.refl (fmts : List Format) : LayoutKept fmts fmts :=
  fun _ f h => ⟨f, h, Format.layoutKept_refl f⟩

theorem LayoutKept.append (fmts : List Format) (x : Format) : LayoutKept fmts (fmts ++ [x]) :=
  fun _ f h => ⟨f, by rw [List.getElem?_append_left (lt_of_getElem?_some h)]; exact h, Format.layoutKept_refl f⟩

theorem LayoutKept.set {fmts : List Format} {fid0 : Nat} {f0 f0' : Format} (h0 : fmts[fid0]? = some f0)
    (hl : f0.layoutKept f0') : LayoutKept fmts (fmts.set fid0 f0') := by
  intro fid f h
  by_cases hf : fid0 = fid
  · subst hf
    rw [h0] at h; cases h
    exact ⟨f0', List.getElem?_set_self (lt_of_getElem?_some h0), hl⟩
  · exact ⟨f, by rw [List.getElem?_set_ne hf]; exact h, Format.layoutKept_refl f⟩

/-- going from `s` to `s'` only the record `t` (if any) changed its block, formats kept the layout
    of their attributes, live cells not owned by `t` are untouched; appended records are free -/
structure Frame (s s' : State) (t : Option Nat) : Prop where
  datas : ∀ x : Nat, some x ≠ t → x < s.datas.length → s'.datas[x]? = s.datas[x]?
  fmts : LayoutKept s.fmts s'.fmts
  heap : ∀ (a : Nat) (c : Cell), s.heap[a]? = some (some c) →
    (∀ d, t = some d → ¬ owns (valsOf s.datas d) a) → s'.heap[a]? = some (some c)

theorem Frame.refl (s : State) (t : Option Nat) : Frame s s t :=
  ⟨fun _ _ _ => rfl, .refl _, fun _ _ h _ => h⟩

theorem Frame.setFmts (s : State) (t : Option Nat) {fmts' : List Format} (h : LayoutKept s.fmts fmts') :
    Frame s { s with fmts := fmts' } t :=
  ⟨fun _ _ _ => rfl, h, fun _ _ h _ => h⟩

theorem Frame.appended (s : State) (t : Option Nat) (xs : List (Option Data)) {h' : Heap} (L : List Nat)
    (hk : ∀ (a : Nat) (c : Cell), s.heap[a]? = some (some c) → h'[a]? = some (some c)) :
    Frame s ⟨s.fmts, s.datas ++ xs, h', L⟩ t :=
  ⟨fun _ _ hx => List.getElem?_append_left hx, .refl _, fun a c hc _ => hk a c hc⟩

theorem Frame.setData (s : State) (d : Nat) (x : Option Data) {h' : Heap} (L : List Nat)
    (hk : ∀ (a : Nat) (c : Cell), s.heap[a]? = some (some c) → ¬ owns (valsOf s.datas d) a →
      h'[a]? = some (some c)) :
    Frame s ⟨s.fmts, s.datas.set d x, h', L⟩ (some d) :=
  ⟨fun y hy _ => List.getElem?_set_ne (fun e => hy (by rw [e])), .refl _,
   fun a c hc hn => hk a c hc (hn d rfl)⟩

/-! ## The operations -/

theorem copy_step {e id : Nat} (hs : Inv al s)
    (h : copyData s e = .ok (s', id)) : Inv al s' ∧ Frame s s' none ∧ s'.leaked = s.leaked := by
  obtain ⟨src, hsrc, -, ⟨-, rfl⟩ | ⟨fid, f, -, hf, -, rfl⟩ |
    ⟨fid, f, b, vals, h', hfid, hf, -, hb, hfull, -, -, hc, rfl⟩⟩ := copyData_ok h
  · exact ⟨hs.appendNoBlock (fun _ h => nomatch h), Frame.appended s none _ _ fun _ _ hc => hc, rfl⟩
  · exact ⟨hs.appendNoBlock (fun _ h => Option.some.inj h ▸ ⟨f, hf⟩), Frame.appended s none _ _ fun _ _ hc => hc, rfl⟩
  · refine ⟨?_, Frame.appended s none _ _ (deepCopy_props hs hsrc hfid hb hf hfull hc).1, rfl⟩
    have := hs.deepCopyInto (L := []) (OnlyAt.append s.datas _) hsrc hfid hb hf hfull
      (fun a => by rw [valsOf_length_nil]; exact ⟨fun h => (nomatch h), fun h => absurd h (owns_nil a)⟩) hc
    rw [List.append_nil] at this
    exact this

/-- `if (m_format) m_format->release(m_data)` -/
theorem releaseIfFmt_spec (hs : Inv al s) {dat : Data} {h : Heap}
    (hd : s.datas[d]? = some (some dat)) (hr : releaseIfFmt s dat = .ok h) : Released s d h := by
  revert hr; unfold releaseIfFmt
  cases hfid : dat.fmt with
  | none =>
    -- a record without format has no block
    intro hr; cases hr
    have hdo := hs.datas d dat hd
    unfold DataOk at hdo
    rw [hfid] at hdo
    unfold Released
    rw [valsOf_eq hd, hdo]
    exact ⟨rfl, fun a ha => absurd ha (owns_nil a), fun _ _ => rfl⟩
  | some fid =>
    dsimp only
    cases hf : s.getFmt fid with
    | error e => intro hr; cases hr
    | ok f => exact format_release_spec hs hd hfid (getFmt_ok.1 hf)

/-- the state in which record `d` has given up block and format -/
theorem Inv.dropped {al : Option Nat} {s : State} (hs : Inv al s) {d : Nat} {dat : Data} {h : Heap}
    (hd : s.datas[d]? = some (some dat))
    (hlen : h.length = s.heap.length) (hfreed : ∀ a, owns (valsOf s.datas d) a → h[a]? = some none)
    (hkept : ∀ a, ¬ owns (valsOf s.datas d) a → h[a]? = s.heap[a]?) :
    Inv al ⟨s.fmts, s.datas.set d (some ⟨none, none⟩), h, s.leaked⟩ :=
  hs.afterRelease (OnlyAt.set (lt_of_getElem?_some hd) _)
    (Or.inr ⟨none, rfl, fun fid hfid => by cases hfid⟩) ⟨hlen, hfreed, hkept⟩

/-- the state between the two halves of `operator=` for different formats -/
theorem Inv.assign_dropped (hs : Inv al s) {e : Nat} {dst src : Data} {h1 : Heap}
    (hdst : s.datas[d]? = some (some dst)) (hsrc : s.datas[e]? = some (some src)) (hne : dst.fmt ≠ src.fmt)
    (hrel : releaseIfFmt s dst = .ok h1) :
    e ≠ d ∧ Inv al ⟨s.fmts, s.datas.set d (some ⟨none, none⟩), h1, s.leaked⟩ ∧
      (s.datas.set d (some ⟨none, none⟩))[e]? = some (some src) := by
  obtain ⟨r1, r2, r3⟩ := releaseIfFmt_spec hs hdst hrel
  have hed : e ≠ d := by
    rintro rfl
    rw [hdst] at hsrc; cases hsrc; exact hne rfl
  exact ⟨hed, hs.dropped hdst r1 r2 r3, by rw [List.getElem?_set_ne (Ne.symm hed)]; exact hsrc⟩

theorem assign_step {e : Nat} (hs : Inv al s)
    (h : assignData s d e = .ok s') : Inv al s' ∧ Frame s s' (some d) := by
  obtain ⟨dst, src, hdst, hsrc, ⟨hne, h1, hrel, hcase⟩ | ⟨heq, hcase⟩⟩ := assignData_ok h
  · -- different formats: the destination first gives up block and format
    have hdlt : d < s.datas.length := lt_of_getElem?_some hdst
    have hkept := (releaseIfFmt_spec hs hdst hrel).kept
    obtain ⟨-, hs1, hsrc1⟩ := hs.assign_dropped hdst hsrc hne hrel
    rcases hcase with ⟨-, rfl⟩ | ⟨fid, f, b, vals, h', hfid, hf, -, hb, hfull, -, -, hc, rfl⟩
    · exact ⟨hs1, Frame.setData s d _ _ hkept⟩
    · refine ⟨?_, Frame.setData s d _ _ fun a c hc' ho =>
        (deepCopy_props hs1 hsrc1 hfid hb hf hfull hc).1 a c (hkept a c hc' ho)⟩
      have := hs1.deepCopyInto (L := []) (e := e) (d := d)
        (OnlyAt.set_set hdlt _ (some ⟨some fid, some ⟨f.size, vals⟩⟩)) hsrc1 hfid hb hf hfull
        (fun a => by
          show a ∈ [] ↔ owns (valsOf (s.datas.set d (some ⟨none, none⟩)) d) a
          rw [(OnlyAt.set hdlt _).valsOf_self_noblock]
          exact ⟨fun h => (nomatch h), fun h => absurd h (owns_nil a)⟩)
        hc
      rw [List.append_nil] at this
      exact this
  · -- same format: the block is overwritten in place, its own smart pointers are lost
    rcases hcase with ⟨-, rfl⟩ | ⟨fid, f, db, b, vals, h', hfid, hf, hdb, hb, hdfull, hfull, -, -, hc, rfl⟩
    · exact ⟨hs, Frame.refl _ _⟩
    · refine ⟨?_, Frame.setData s d _ _ fun a c hc' _ => (deepCopy_props hs hsrc hfid hb hf hfull hc).1 a c hc'⟩
      have hsz : db.size = f.size :=
        Nat.le_antisymm ((hs.block hdst (heq.trans hfid) hf hdb).1.size_le (hs.fmts fid f hf)) (Nat.le_of_not_lt hdfull)
      rw [hsz]
      exact hs.deepCopyInto (L := db.vals.filterMap Val.spAddr) (e := e) (d := d)
        (OnlyAt.set (lt_of_getElem?_some hdst) _) hsrc hfid hb hf hfull
        (fun a => by rw [valsOf_of_block hdst hdb]; exact mem_filterMap_spAddr) hc

/-- `setFormatAndAlloc`, `reAlloc` after the release -/
theorem realloc_step {fid : Nat} {dat : Data} {h h' : Heap} {x : Format}
    {b : Option Block} (hs : Inv al s) (hd : s.datas[d]? = some (some dat))
    (hr : Released s d h) (hx : s.fmts[fid]? = some x) (ha : x.allocSp h = .ok (b, h')) :
    Inv al ({ s with heap := h' }.setData d (some ⟨some fid, b⟩)) ∧
      Frame s ({ s with heap := h' }.setData d (some ⟨some fid, b⟩)) (some d) := by
  have hdlt : d < s.datas.length := lt_of_getElem?_some hd
  exact ⟨(hs.dropped hd hr.1 hr.2.1 hr.2.2).allocInto (d := d) (OnlyAt.set_set hdlt _ (some ⟨some fid, b⟩))
    (OnlyAt.set hdlt _).valsOf_self_noblock hx (allocSp_ok ha),
    Frame.setData s d _ _ fun a c hc ho => Format.alloc_kept ha a c (hr.kept a c hc ho)⟩

theorem dadd_step {name symbol : String} {t : DType} {pers : Bool}
    {a : Attr} (hs : Inv al s) (h : dataAddAttribute al s d name t pers symbol = .ok (s', a)) :
    Inv al s' ∧ Frame s s' (some d) ∧ s'.leaked = s.leaked := by
  obtain ⟨dat, fid, f, f', hd, hfid, hf, hadd, hcase⟩ := dataAddAttribute_ok h
  have hfok := hs.fmts fid f hf
  have hf'ok := hfok.addAttribute hadd
  have hs1 := hs.setFmt hf hf'ok (Format.layoutKept_addAttribute hadd)
  have hlay := LayoutKept.set hf (Format.layoutKept_addAttribute hadd)
  rcases hcase with ⟨-, rfl⟩ | ⟨hsize, b, hb, hfull, hcase⟩
  · exact ⟨hs1, Frame.setFmts s _ hlay, rfl⟩
  · -- the attribute is new and becomes the last slot of the block
    obtain ⟨ha, hf'⟩ : a.dtype = t ∧ f'.byIndex = f.byIndex ++ [a] := by
      rcases Format.addAttribute_ok_cases hadd with ⟨-, h1, h2⟩ | ⟨-, -, hf'⟩
      · exact ⟨by rw [h1], by rw [h2]⟩
      · exact absurd (by rw [hf']) hsize
    have hdlt : d < s.datas.length := lt_of_getElem?_some hd
    have hbo := (hs.block hd hfid hf hb).1
    have hlenb := hbo.full_of_not_lt hfok hfull
    have hv : valsOf s.datas d = b.vals := valsOf_of_block hd hb
    have hdata : ∀ v : Val, v.hasType t = true →
        DataOk al (s.fmts.set fid f') ⟨some fid, some ⟨f'.size, b.vals ++ [v]⟩⟩ := fun v hvt =>
      dataOk_block (List.getElem?_set_self (lt_of_getElem?_some hf)) (blockOk_full hf'ok
        (by rw [hf', List.length_append, List.length_append, hlenb]; rfl)
        (hf' ▸ typed_concat hbo.typed hlenb (ha ▸ hvt)))
    have hfr : ∀ (x : Option Data) (h' : Heap), (∀ a c, s.heap[a]? = some (some c) → h'[a]? = some (some c)) →
        Frame s ⟨s.fmts.set fid f', s.datas.set d x, h', s.leaked⟩ (some d) := fun x h' hk =>
      ⟨fun y hy _ => List.getElem?_set_ne (fun e => hy (by rw [e])), hlay, fun a c hc _ => hk a c hc⟩
    rcases hcase with ⟨hc, -, rfl⟩ | ⟨hc, rfl⟩
    · have ho := OnlyAt.set hdlt (some (⟨some fid, some ⟨f'.size, b.vals ++ [Val.sp (some s.heap.length)]⟩⟩ : Data))
      exact ⟨⟨hs1.fmts, datasOk_onlyAt hs1 ho fun dat' hdat' => by cases hdat'; exact hdata _ hc,
        hs.heap.appendedSp d _ _ ho.valsOf_other (by rw [ho.valsOf_self_block, hv])⟩,
        hfr _ _ fun _ _ => heap_append_keep _, rfl⟩
    · have ho := OnlyAt.set hdlt (some (⟨some fid, some ⟨f'.size, b.vals ++ [zeroVal t]⟩⟩ : Data))
      refine ⟨⟨hs1.fmts, datasOk_onlyAt hs1 ho fun dat' hdat' => by cases hdat'; exact hdata _ (zeroVal_hasType t),
        hs.heap.congr _ _ fun x k a' => ?_⟩, hfr _ _ fun _ _ hc => hc, rfl⟩
      by_cases hx : x = d
      · -- the zero pattern is no smart pointer
        subst hx
        show (valsOf (s.datas.set x _) x)[k]? = _ ↔ _
        rw [ho.valsOf_self_block, hv]
        exact getElem?_concat_eq_some.trans
          ⟨fun h => h.elim id (fun h => absurd h.2 (zeroVal_ne_sp t a')), Or.inl⟩
      · show (valsOf (s.datas.set d _) x)[k]? = _ ↔ _
        rw [ho.valsOf_other x hx]

theorem clear_step {all : Bool} (hs : Inv al s)
    (h : clearData all s d = .ok s') : Inv al s' ∧ Frame s s' (some d) ∧ s'.leaked = s.leaked := by
  obtain ⟨dat, fid, f, hd, hfid, hf, ⟨-, rfl⟩ | ⟨b, vs, h', hb, hc, rfl⟩⟩ := clearData_ok h
  · exact ⟨hs, Frame.refl _ _, rfl⟩
  · obtain ⟨hinv, -, -, -, hkeep⟩ := hs.clearInto hd hfid hb hf hc
    exact ⟨hinv, Frame.setData s d _ _ fun a c hc' ho =>
      (hkeep a (valsOf_of_block hd hb ▸ ho)).trans hc', rfl⟩

theorem protect_step {p : Bool} (t : Option Nat) (hs : Inv al s)
    (h : protectData p s d i = .ok s') : Inv al s' ∧ Frame s s' t ∧ s'.leaked = s.leaked := by
  obtain ⟨l, hl, rfl⟩ := protectData_ok h
  obtain ⟨-, -, hf, -⟩ := attrAt_ok hl
  exact ⟨hs.setFmt hf ((hs.fmts _ _ hf).setPersistent i p) (Format.layoutKept_setPersistent _ i p),
    Frame.setFmts s _ (.set hf (Format.layoutKept_setPersistent _ i p)), rfl⟩

theorem writeVal_step {l : AttrAt} {v : Val} (hs : Inv al s)
    (hl : s.attrAt d i = .ok l) (hv : v.hasType l.attr.dtype = true) (hnc : l.attr.dtype.isContainer = false)
    (h : writeVal s l d i v = .ok s') : Inv al s' ∧ Frame s s' (some d) ∧ s'.leaked = s.leaked := by
  obtain ⟨hd, hfid, hf, hatt⟩ := attrAt_ok hl
  obtain ⟨b, old, hslot, rfl⟩ := writeVal_ok h
  have hblk := (slot_ok hslot).1
  refine ⟨?_, Frame.setData s d _ _ fun _ _ hc _ => hc, rfl⟩
  have hbo := (hs.block hd hfid hf hblk).1
  have hvv : valsOf s.datas d = b.vals := valsOf_of_block hd hblk
  have ho := OnlyAt.set (lt_of_getElem?_some hd)
    (some ({ l.dat with block := some { b with vals := b.vals.set i v } } : Data))
  refine ⟨hs.fmts, datasOk_onlyAt hs ho fun dat' hdat' => ?_, hs.heap.congr _ _ fun x k a => ?_⟩
  · cases hdat'
    show DataOk al s.fmts ⟨l.dat.fmt, some ⟨b.size, b.vals.set i v⟩⟩
    rw [hfid]
    refine dataOk_block hf ⟨(by show (b.vals.set i v).length ≤ _; rw [List.length_set]; exact hbo.len),
      (by show b.size = _; rw [List.length_set]; exact hbo.size), fun k v' a' hvk ha' => ?_⟩
    have hvk : (b.vals.set i v)[k]? = some v' := hvk
    by_cases hik : i = k
    · subst hik
      rw [List.getElem?_set_self (List.length_set ▸ lt_of_getElem?_some hvk)] at hvk
      cases hvk; cases hatt.symm.trans ha'; exact hv
    · exact hbo.typed k v' a' ((List.getElem?_set_ne hik).symm.trans hvk) ha'
  · -- neither the old nor the new value of slot `i` is a smart pointer
    by_cases hx : x = d
    · subst hx
      show (valsOf (s.datas.set x _) x)[k]? = _ ↔ _
      rw [ho.valsOf_self_block, hvv]
      by_cases hik : i = k
      · subst hik
        refine ⟨fun h' => ?_, fun h' => absurd rfl (hasType_noncontainer (hbo.typed i _ l.attr h' hatt) hnc (some a))⟩
        have hlt : i < b.vals.length := List.length_set ▸ lt_of_getElem?_some h'
        rw [List.getElem?_set_self hlt] at h'
        exact absurd (Option.some.inj h') (hasType_noncontainer hv hnc _)
      · rw [List.getElem?_set_ne hik]
    · show (valsOf (s.datas.set d _) x)[k]? = _ ↔ _
      rw [ho.valsOf_other x hx]

theorem push_step {e : Elem} (hs : Inv al s)
    (h : pushData s d i e = .ok s') : Inv al s' ∧ Frame s s' (some d) ∧ s'.leaked = s.leaked := by
  obtain ⟨l, b, a, c, hl, hslot, hc, rfl⟩ := pushData_ok h
  obtain ⟨hd, -, -, -⟩ := attrAt_ok hl
  obtain ⟨hblk, hval, -⟩ := slot_ok hslot
  refine ⟨⟨hs.fmts, hs.datas, hs.heap.setCell hc rfl⟩, ⟨fun _ _ _ => rfl, .refl _, fun a' c' hc' hn => ?_⟩, rfl⟩
  -- the cell pushed into is owned by `d`
  have hne : a ≠ a' := by
    rintro rfl
    exact hn d rfl (by rw [valsOf_of_block hd hblk]; exact ⟨i, hval⟩)
  exact (List.getElem?_set_ne hne).trans hc'

/-- the record whose block an operation may change -/
def Op.target : Op → Option Nat
  | .assign d _ | .del d | .setfmt d _ | .release d | .realloc d | .dadd d _ _ _ _ | .clear d
  | .clearall d | .set d _ _ | .push d _ _ | .fromstr d _ _ => some d
  | _ => none

def Op.isAssign : Op → Bool
  | .assign _ _ => true
  | _ => false

theorem step_effect {op : Op} {o : Out} (hs : Inv al s)
    (h : step al nc s op = .ok (s', o)) :
    Inv al s' ∧ Frame s s' op.target ∧ (op.isAssign = false → s'.leaked = s.leaked) := by
  -- the operations that are handed to a function, when that function keeps the ghost list
  have sub : ∀ {t : Option Nat}, Inv al s' ∧ Frame s s' t ∧ s'.leaked = s.leaked →
      Inv al s' ∧ Frame s s' t ∧ (op.isAssign = false → s'.leaked = s.leaked) :=
    fun h => ⟨h.1, h.2.1, fun _ => h.2.2⟩
  cases op with
  | fmt => cases h; exact ⟨hs.appendFmt (FormatOk.empty al), Frame.setFmts s _ (.append _ _), fun _ => rfl⟩
  | fmtcopy f =>
    obtain ⟨x, hx, h⟩ := getFmt_bind_ok h
    cases h; exact ⟨hs.appendFmt (hs.fmts f x hx), Frame.setFmts s _ (.append _ _), fun _ => rfl⟩
  | fadd f name t pers symbol =>
    obtain ⟨x, hx, h⟩ := getFmt_bind_ok h
    generalize hadd : x.addAttribute al name t pers symbol = res at h
    cases res with
    | error e => cases h
    | ok r =>
      cases h
      exact ⟨hs.setFmt hx ((hs.fmts f x hx).addAttribute hadd) (Format.layoutKept_addAttribute hadd),
        Frame.setFmts s _ (.set hx (Format.layoutKept_addAttribute hadd)), fun _ => rfl⟩
  | new f =>
    obtain ⟨x, hx, h⟩ := getFmt_bind_ok h
    generalize ha : x.allocSp s.heap = res at h
    cases res with
    | error e => cases h
    | ok r =>
      cases h
      exact ⟨hs.allocInto (OnlyAt.append s.datas _) (valsOf_length_nil s) hx (allocSp_ok ha),
        Frame.appended s none _ _ (Format.alloc_kept ha), fun _ => rfl⟩
  | new0 =>
    cases h
    exact ⟨hs.appendNoBlock (fun _ h => nomatch h), Frame.appended s none _ _ fun _ _ hc => hc, fun _ => rfl⟩
  | copy e => obtain ⟨id, hc, -⟩ := step_copy h; exact sub (copy_step hs hc)
  | assign d e => exact ⟨(assign_step hs (step_assign h)).1, (assign_step hs (step_assign h)).2, nofun⟩
  | del d =>
    obtain ⟨dat, hd, h⟩ := getData_bind_ok h
    obtain ⟨h1, hr, h⟩ := heap_bind_ok h
    cases h
    have hr := releaseIfFmt_spec hs hd hr
    exact ⟨hs.afterRelease (OnlyAt.set (lt_of_getElem?_some hd) none) (Or.inl rfl) hr,
      Frame.setData s d _ _ hr.kept, fun _ => rfl⟩
  | setfmt d f =>
    obtain ⟨dat, hd, h⟩ := getData_bind_ok h
    obtain ⟨x, hx, h⟩ := getFmt_bind_ok h
    obtain ⟨h1, hr, h⟩ := heap_bind_ok h
    generalize ha : x.allocSp h1 = res at h
    cases res with
    | error e => cases h
    | ok r =>
      cases h
      have := realloc_step hs hd (releaseIfFmt_spec hs hd hr) hx ha
      exact ⟨this.1, this.2, fun _ => rfl⟩
  | release d =>
    obtain ⟨dat, hd, h⟩ := getData_bind_ok h
    obtain ⟨fid, x, hfid, hf, h⟩ := fmtOf_bind_ok h
    obtain ⟨h1, hr, h⟩ := heap_bind_ok h
    cases h
    have hr := format_release_spec hs hd hfid hf hr
    exact ⟨hs.afterRelease (OnlyAt.set (lt_of_getElem?_some hd) _)
      (Or.inr ⟨some fid, rfl, fun _ h => Option.some.inj h ▸ ⟨x, hf⟩⟩) hr, Frame.setData s d _ _ hr.kept, fun _ => rfl⟩
  | realloc d =>
    obtain ⟨dat, hd, h⟩ := getData_bind_ok h
    obtain ⟨fid, x, hfid, hf, h⟩ := fmtOf_bind_ok h
    obtain ⟨h1, hr, h⟩ := heap_bind_ok h
    generalize ha : x.allocSp h1 = res at h
    cases res with
    | error e => cases h
    | ok r =>
      cases h
      have := realloc_step hs hd (format_release_spec hs hd hfid hf hr) hf ha
      exact ⟨this.1, this.2, fun _ => rfl⟩
  | dadd d name t pers symbol => obtain ⟨a, hc, -⟩ := step_dadd h; exact sub (dadd_step hs hc)
  | clear d | clearall d =>
    obtain ⟨s1, hc, h⟩ := state_bind_ok h
    cases h; exact sub (clear_step hs hc)
  | protect d i | unprotect d i =>
    obtain ⟨s1, hc, h⟩ := state_bind_ok h
    cases h; exact sub (protect_step _ hs hc)
  | set d i v =>
    obtain ⟨l, hl, h⟩ := attrAt_bind_ok h
    obtain ⟨hty, h⟩ := ite_error_ok h
    obtain ⟨s1, hw, h⟩ := state_bind_ok h
    cases h
    obtain ⟨h1, h2⟩ := Bool.or_eq_false_iff.1 (Bool.of_not_eq_true hty)
    exact sub (writeVal_step hs hl (Bool.not_eq_false' _ ▸ h1) h2 hw)
  | push d i e =>
    obtain ⟨s1, hc, h⟩ := state_bind_ok h
    cases h; exact sub (push_step hs hc)
  | leakcheck => cases h; exact ⟨hs, Frame.refl _ _, fun _ => rfl⟩
  | layout f | get d i | rc d i | dump d | tostr d i =>
    -- observers: the state is returned as it is
    simp only [DataFormat.step] at h
    split at h <;> cases h
    exact ⟨hs, Frame.refl _ _, fun _ => rfl⟩
  | fromstr d i text =>
    obtain ⟨s1, hc, h⟩ := state_bind_ok h
    cases h
    obtain ⟨l, v, hl, hv, hw⟩ := fromStrData_ok hc
    exact sub (writeVal_step hs hl (fromText_hasType hv).1 (fromText_hasType hv).2 hw)

theorem Inv.step {op : Op} {o : Out} (hs : Inv al s)
    (h : step al nc s op = .ok (s', o)) : Inv al s' :=
  (step_effect hs h).1

theorem step_frame {op : Op} {o : Out} (hs : Inv al s)
    (h : step al nc s op = .ok (s', o)) : Frame s s' op.target :=
  (step_effect hs h).2.1

theorem Inv.run (ops : List Op) : ∀ {s : State}, Inv al s → Inv al (run al nc s ops) := by
  induction ops with
  | nil => intro s hs; exact hs
  | cons op ops ih =>
    intro s hs
    unfold DataFormat.run
    split
    · rename_i s' o hstep
      exact ih (hs.step hstep)
    · split
      · exact hs
      · exact ih hs

theorem run_leaked (ops : List Op) (hno : ∀ op ∈ ops, op.isAssign = false) :
    ∀ s : State, Inv al s → (run al nc s ops).leaked = s.leaked := by
  induction ops with
  | nil => intro s _; rfl
  | cons op ops ih =>
    intro s hs
    have hno' : ∀ op' ∈ ops, op'.isAssign = false := fun op' h => hno op' (List.mem_cons_of_mem _ h)
    unfold DataFormat.run
    split
    · rename_i s' o hstep
      rw [ih hno' s' (hs.step hstep), (step_effect hs hstep).2.2 (hno op (List.mem_cons_self ..))]
    · split
      · rfl
      · exact ih hno' s hs

end Sympler.DataFormat
