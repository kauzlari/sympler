import Sympler.CollideLemmas
/-! Lemmas about `Cell::checkNewPosition` and the whole step of `Sympler.Collide` (core Lean only). -/
namespace Sympler.Collide
open V3

theorem intCast_sub_one (a : Int) : ((a - 1 : Int) : Rat) = (a : Rat) - 1 := Rat.intCast_sub a 1
theorem intCast_add (a b : Int) : ((a + b : Int) : Rat) = (a : Rat) + (b : Rat) := Rat.intCast_add a b
theorem intCast_sub (a b : Int) : ((a - b : Int) : Rat) = (a : Rat) - (b : Rat) := Rat.intCast_sub a b

/-! ### `checkNewPosition` in one direction

`w` cell width, `n` cells, `L = n w`; the particle was in cell `ci` and is now at `x`, less than a cell width away. -/

theorem off_spec {w x : Rat} {ci off : Int} (lo : ((ci - 1 : Int) : Rat) * w < x) (hi : x < ((ci + 2 : Int) : Rat) * w)
    (hoff : off = if x < (ci : Rat) * w then -1 else if x ≥ ((ci + 1 : Int) : Rat) * w then 1 else 0) :
    -1 ≤ off ∧ off ≤ 1 ∧ ((ci + off : Int) : Rat) * w ≤ x ∧ x < ((ci + off + 1 : Int) : Rat) * w := by
  subst hoff
  simp only [intCast_add, intCast_sub, Rat.intCast_ofNat] at lo hi ⊢
  split
  · simp only [Rat.intCast_neg, Rat.intCast_ofNat]; grind
  · split <;> simp only [Rat.intCast_ofNat] <;> grind

theorem cell_in_grid {w L x : Rat} {n t : Int} (hw : 0 < w) (hL : (n : Rat) * w = L)
    (hx : (t : Rat) * w ≤ x ∧ x < ((t + 1 : Int) : Rat) * w) (h0 : 0 < x) (h1 : x < L) : 0 ≤ t ∧ t < n := by
  have a : (0 : Int) < t + 1 := int_lt_of_mul_lt hw (by rw [Rat.intCast_zero, Rat.zero_mul]; exact Std.lt_trans h0 hx.2)
  have b : t < n := int_lt_of_mul_lt hw (Std.lt_of_le_of_lt hx.1 (hL ▸ h1))
  omega

theorem wrap_spec {w L x x' : Rat} {n t t' : Int} (hL : (n : Rat) * w = L) (ht : -1 ≤ t) (ht' : t ≤ n) (hn : 0 < n)
    (hx : (t : Rat) * w ≤ x ∧ x < ((t + 1 : Int) : Rat) * w)
    (hc : t' = if t < 0 then t + n else if t ≥ n then t - n else t)
    (hr : x' = if t < 0 then x + L else if t ≥ n then x - L else x) :
    0 ≤ t' ∧ t' < n ∧ (t' : Rat) * w ≤ x' ∧ x' < ((t' + 1 : Int) : Rat) * w := by
  subst hc hr hL
  simp only [intCast_add, Rat.intCast_ofNat] at hx ⊢
  split
  · simp only [intCast_add]; grind
  · split
    · simp only [intCast_sub]; grind
    · grind

theorem insideEps_iff (c : Cfg) (cell : I3) (r : V3) :
    insideEps c cell r = true ↔ ∀ d, c1 c cell d - c.geps ≤ r d ∧ r d < c2 c cell d + c.geps := by
  rw [insideEps, all3_iff]
  exact forall_congr' fun d => by simp [Rat.not_lt, Rat.not_le]

theorem inside_iff (c : Cfg) (cell : I3) (r : V3) :
    inside c cell r = true ↔ ∀ d, c1 c cell d ≤ r d ∧ r d < c2 c cell d := by
  rw [inside, all3_iff]
  exact forall_congr' fun d => by simp [Rat.not_lt, Rat.not_le]

theorem hasOutlet_iff (c : Cfg) (cell off : I3) :
    hasOutlet c cell off = true ↔ ∀ d, c.per d = true ∨ (0 ≤ cell d + off d ∧ cell d + off d < c.ncell d) := by
  rw [hasOutlet, all3_iff]
  exact forall_congr' fun d => by simp

theorem widen_cell {lo hi x g : Rat} (hg : 0 ≤ g) (h1 : lo ≤ x) (h2 : x < hi) : lo - g ≤ x ∧ x < hi + g := by
  grind

section
variable {c : Cfg} (ok : CfgOK c) {p0 : PState} (cell : CellOK c p0) {r1 : V3} (ins : InsideW c r1)
include ok cell ins

theorem target_spec (d : Fin 3) (hdisp : -(c.w d - c.geps) < r1 d - p0.r d ∧ r1 d - p0.r d < c.w d - c.geps)
    {T : I3 × V3} (hT : T = target c p0.cell (offs c p0.cell r1) r1) :
    (c.per d = true ∨ (0 ≤ p0.cell d + offs c p0.cell r1 d ∧ p0.cell d + offs c p0.cell r1 d < c.ncell d)) ∧
    0 ≤ T.1 d ∧ T.1 d < c.ncell d ∧ c1 c T.1 d ≤ T.2 d ∧ T.2 d < c2 c T.1 d ∧ (c.per d = false → T.2 d = r1 d) := by
  subst hT
  obtain ⟨h0, h1, hlo, hhi⟩ := cell d
  obtain ⟨near1, near2⟩ := near_cell hlo hhi hdisp
  obtain ⟨o1, o2, hx⟩ := off_spec (off := offs c p0.cell r1 d) near1 near2 rfl
  have hgrid : c.per d = false → 0 ≤ p0.cell d + offs c p0.cell r1 d ∧ p0.cell d + offs c p0.cell r1 d < c.ncell d :=
    fun hp => cell_in_grid (w_pos ok d) (ncell_mul_w ok d) hx (ins d hp).1 (ins d hp).2
  obtain ⟨w1, w2, w3, w4⟩ := wrap_spec (ncell_mul_w ok d) (by omega) (by omega) (ok.ncell_pos d) hx rfl rfl
  refine ⟨?_, w1, w2, w3, w4, fun hp => ?_⟩
  · cases hp : c.per d
    · exact Or.inr (hgrid hp)
    · exact Or.inl rfl
  · have := hgrid hp
    show (if _ then _ else if _ then _ else _) = _
    rw [if_neg (by omega), if_neg (by omega)]

theorem checkNewPosition_ok (hdisp : ∀ d, -(c.w d - c.geps) < r1 d - p0.r d ∧ r1 d - p0.r d < c.w d - c.geps)
    (v : V3) (tr : List Hit) :
    ∃ p', checkNewPosition c p0.cell r1 v tr = .ok p' tr ∧ p'.v = v ∧ InsideW c p'.r ∧ CellOK c p' := by
  unfold checkNewPosition
  split
  · rename_i hin
    exact ⟨_, rfl, rfl, ins, fun d => ⟨(cell d).1, (cell d).2.1, (insideEps_iff c p0.cell r1).mp hin d⟩⟩
  · have key := fun d => target_spec ok cell ins d (hdisp d) rfl
    rw [if_neg (by rw [(hasOutlet_iff ..).mpr fun d => (key d).1]; decide),
      if_pos ((inside_iff ..).mpr fun d => ⟨(key d).2.2.2.1, (key d).2.2.2.2.1⟩)]
    refine ⟨_, rfl, rfl, fun d hp => ?_, fun d => ?_⟩
    · show 0 < (target c p0.cell (offs c p0.cell r1) r1).2 d ∧ (target c p0.cell (offs c p0.cell r1) r1).2 d < c.box d
      rw [(key d).2.2.2.2.2 hp]
      exact ins d hp
    · obtain ⟨_, k1, k2, k3, k4, _⟩ := key d
      exact ⟨k1, k2, widen_cell ok.geps_nonneg k3 k4⟩

end

theorem checkNewPosition_trace (c : Cfg) (cell : I3) (r v : V3) (tr : List Hit) :
    (checkNewPosition c cell r v tr).trace = tr := by
  unfold checkNewPosition
  split
  · rfl
  · dsimp only
    split
    · rfl
    · split <;> rfl

theorem step_trace {c : Cfg} {dt : Rat} {p : PState} {st : LoopSt}
    (h : doCollision c p.cell 100 ⟨p.r, p.v, dt, []⟩ = .done st) : (step c dt p).trace = st.trace := by
  unfold step
  rw [h]
  exact checkNewPosition_trace ..

theorem linv_init {c : Cfg} {dt : Rat} {p : PState} (hdt : 0 ≤ dt) (ins : InsideW c p.r) :
    LInv c dt p ⟨p.r, p.v, dt, []⟩ := by
  refine ⟨hdt, Rat.le_refl, ins, fun d => Or.inl rfl, fun d => ?_⟩
  simp [Rat.sub_self, Rat.mul_zero, Rat.zero_mul, Rat.add_zero]

theorem speedOK_of_sign {c : Cfg} {dt : Rat} {v v' : V3} (sp : SpeedOK c dt v)
    (hs : ∀ d, v' d = v d ∨ v' d = - v d) : SpeedOK c dt v' := by
  intro d
  have := sp d
  rcases hs d with h | h <;> rw [h]
  · exact this
  · rw [absq_neg]; exact this

/-! ### all particles, several steps -/

/-- no hit of this particle's next step is on an edge or corner -/
def NoEdgeStep (c : Cfg) (dt : Rat) (p : PState) : Prop := ∀ h ∈ (step c dt p).trace, NoEdge c h

def AllOK (c : Cfg) (dt : Rat) (ps : List PState) : Prop := ∀ p ∈ ps, Good c p ∧ SpeedOK c dt p.v

/-- no edge/corner hit during the next `n` steps of the run -/
def NoEdgeRun (c : Cfg) (dt : Rat) : Nat → List PState → Prop
  | 0, _ => True
  | n + 1, ps => (∀ p ∈ ps, NoEdgeStep c dt p) ∧ ∀ ps', stepAll c dt ps = .ok ps' → NoEdgeRun c dt n ps'

/-! ### Boolean versions (for `decide` on concrete scenarios) -/

def noEdgeB (c : Cfg) (h : Hit) : Bool :=
  all3 fun k => decide (k = h.wall.d) || c.per k || (decide (0 < h.pos k) && decide (h.pos k < c.box k))

theorem noEdgeB_iff (c : Cfg) (h : Hit) : noEdgeB c h = true ↔ NoEdge c h := by
  rw [noEdgeB, all3_iff]
  refine forall_congr' fun k => ?_
  cases c.per k <;> simp [Classical.or_iff_not_imp_left]

def StepRes.isLost : StepRes → Bool
  | .lost _ => true
  | _ => false

def StepRes.isTooManyHits : StepRes → Bool
  | .tooManyHits => true
  | _ => false

def StepRes.isOk : StepRes → Bool
  | .ok _ _ => true
  | _ => false

end Sympler.Collide
