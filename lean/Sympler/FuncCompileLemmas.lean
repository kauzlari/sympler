import Sympler.FuncCompile

/-!
Helper lemmas for `Props/C11.lean`.  With the pid in the name a process works in a name space of
its own: `LInv` says what it looks like at each program counter; a system call of the process keeps
it so, uses up one unit of the bound `measure` on its remaining calls and touches nothing else; `Inv`
puts the processes of a configuration together.  Core Lean only.
-/
namespace Sympler.FuncCompile

/-! ### the directory as a finite map -/

theorem FS.get_erase (fs : FS) (n m : FName) :
    (FS.erase fs n).get m = if m = n then none else fs.get m := by
  unfold FS.erase
  induction (show List (FName × File) from fs) with
  | nil => simp [FS.get]
  | cons hd tl ih =>
    rw [List.filter_cons]
    split <;> simp only [FS.get, ih] <;> grind

theorem FS.get_set (fs : FS) (n : FName) (f : File) (m : FName) :
    (FS.set fs n f).get m = if m = n then some f else fs.get m := by
  simp only [FS.set, FS.get, FS.get_erase]
  by_cases h : n = m
  · subst h; simp
  · have : ¬ m = n := fun e => h e.symm
    simp [h, this]

theorem FS.get_set_self (fs : FS) (n : FName) (f : File) : (fs.set n f).get n = some f := by
  rw [FS.get_set, if_pos rfl]

theorem FS.get_set_ne (fs : FS) {n m : FName} (f : File) (h : m ≠ n) :
    (fs.set n f).get m = fs.get m := by
  rw [FS.get_set, if_neg h]

theorem FS.get_erase_self (fs : FS) (n : FName) : (fs.erase n).get n = none := by
  rw [FS.get_erase, if_pos rfl]

theorem FS.get_erase_ne (fs : FS) {n m : FName} (h : m ≠ n) : (fs.erase n).get m = fs.get m := by
  rw [FS.get_erase, if_neg h]

theorem FS.mem_of_get {fs : List (FName × File)} {n : FName} {f : File}
    (h : FS.get fs n = some f) : (n, f) ∈ fs := by
  induction fs with
  | nil => cases h
  | cons hd tl ih =>
    obtain ⟨a, g⟩ := hd
    simp only [FS.get] at h
    split at h
    · cases h; subst a; exact List.mem_cons_self ..
    · exact List.mem_cons_of_mem _ (ih h)


/-- a path in the name space of process `p` -/
def own (p : Proc) (k : Nat) (e : Ext) : FName := ⟨some p.pid, k, e⟩

theorem fname_true (p : Proc) (e : Ext) : fname true p e = own p p.cur e := rfl

theorem own_eq_iff (p : Proc) (k k' : Nat) (e e' : Ext) :
    own p k e = own p k' e' ↔ k = k' ∧ e = e' := by
  simp [own]

theorem c_ne_so {pid k : Nat} : (⟨some pid, k, .c⟩ : FName) ≠ ⟨some pid, k, .so⟩ := nofun
theorem so_ne_c {pid k : Nat} : (⟨some pid, k, .so⟩ : FName) ≠ ⟨some pid, k, .c⟩ := nofun

/-! ### stale files in a name space, and the termination measure -/

variable {init fs : FS} {cfg : List (Nat × Nat)} {w : World}

/-- Move that member to the front. -/
theorem countP_succ_le {α} [BEq α] [LawfulBEq α] {p q : α → Bool} {l : List α}
    (hpq : ∀ x ∈ l, p x → q x) {a : α} (ha : a ∈ l) (hq : q a) (hp : ¬ p a) :
    l.countP p + 1 ≤ l.countP q := by
  have hperm := List.perm_cons_erase ha
  rw [hperm.countP_eq, hperm.countP_eq, List.countP_cons_of_pos hq, List.countP_cons_of_neg hp]
  exact Nat.succ_le_succ (List.countP_mono_left fun x hx => hpq x (List.mem_of_mem_erase hx))

/-- number of initial paths in the name space of `pid` with counter `≥ k0` -/
def staleFrom (init : FS) (pid k0 : Nat) : Nat :=
  List.countP (fun x => decide (x.1.part = some pid ∧ k0 ≤ x.1.k)) init

theorem staleFrom_le_length (init : FS) (pid k0 : Nat) : staleFrom init pid k0 ≤ FS.size init :=
  List.countP_le_length

theorem staleFrom_mono (init : FS) (pid k0 : Nat) :
    staleFrom init pid (k0 + 1) ≤ staleFrom init pid k0 :=
  List.countP_mono_left fun x _ hx => by
    simp only [decide_eq_true_eq] at hx ⊢
    exact ⟨hx.1, Nat.le_of_succ_le hx.2⟩

theorem staleFrom_lt (init : FS) (pid k0 : Nat) (e : Ext) (f : File)
    (h : FS.get init ⟨some pid, k0, e⟩ = some f) :
    staleFrom init pid (k0 + 1) + 1 ≤ staleFrom init pid k0 :=
  countP_succ_le (fun x _ hx => by
      simp only [decide_eq_true_eq] at hx ⊢
      exact ⟨hx.1, Nat.le_of_succ_le hx.2⟩)
    (FS.mem_of_get h) (by simp) (by simp)

/-- System calls a running process still performs, at most: those left for the current expression, 8 for each later
one, and 2 for every stale file it may still have to skip (`S`). -/
def callsLeft (S nfun fn : Nat) (pc : Pc) : Nat := 2 * S + 8 * (nfun - fn - 1) + (8 - pc.idx)

def measure (init : FS) (p : Proc) : Nat :=
  match p.status with
  | .running => callsLeft (staleFrom init p.pid p.cur) p.nfun p.fn p.pc
  | _ => 0

theorem Pc.idx_le (pc : Pc) : pc.idx ≤ 7 := by cases pc <;> exact Nat.le_of_ble_eq_true rfl

theorem callsLeft_pos (S nfun fn : Nat) (pc : Pc) : 1 ≤ callsLeft S nfun fn pc := by
  have := pc.idx_le
  unfold callsLeft; generalize 2 * S + 8 * (nfun - fn - 1) = c; omega

theorem callsLeft_bump {S S' nfun fn : Nat} {pc : Pc} (hi : pc.idx ≤ 1) (hS : S' + 1 ≤ S) :
    callsLeft S' nfun fn .probeSo + 1 ≤ callsLeft S nfun fn pc := by
  have : Pc.probeSo.idx = 0 := rfl
  unfold callsLeft; omega

theorem callsLeft_nextFn {S S' nfun fn : Nat} (h : fn + 1 < nfun) (hS : S' ≤ S) :
    callsLeft S' nfun (fn + 1) .probeSo + 1 ≤ callsLeft S nfun fn .rmSo := by
  have : Pc.probeSo.idx = 0 := rfl
  have : Pc.rmSo.idx = 7 := rfl
  unfold callsLeft; omega

/-! ### per-process invariant (pid-qualified naming) -/

def boundCount (p : Proc) : Nat :=
  match p.status, p.pc with
  | .running, .rmSo => p.fn + 1
  | _, _ => p.fn

/-- what `p`'s two current files look like, depending on its program counter: `i`, `f` = the file in
the initial / the present directory, `made x` = a file of content `x` that `p` created for its
current expression -/
@[reducible] def PcInv (init fs : FS) (p : Proc) : Prop :=
  let i := fun e => init.get (own p p.cur e)
  let f := fun e => fs.get (own p p.cur e)
  let made := fun x => some (File.mk (.made p.pid p.fn) x)
  let tag := Content.tag p.pid p.fn
  match p.pc with
  | .probeSo => f .c = i .c ∧ f .so = i .so
  | .probeC => i .so = none ∧ f .so = none ∧ f .c = i .c
  | .openC => i .so = none ∧ i .c = none ∧ f .so = none ∧ f .c = none
  | .writeC =>
    i .so = none ∧ i .c = none ∧ f .so = none ∧ f .c = made .empty ∧ p.fd = some (.made p.pid p.fn)
  | .gcc => i .so = none ∧ i .c = none ∧ f .so = none ∧ f .c = made tag
  | .rmC => i .so = none ∧ i .c = none ∧ p.gccOk = true ∧ f .so = made tag ∧ f .c = made tag
  | .dlopen | .rmSo => i .so = none ∧ i .c = none ∧ f .so = made tag ∧ f .c = none

def AgreeOff (init fs : FS) (pid cur : Nat) : Prop :=
  ∀ k e, k ≠ cur → fs.get ⟨some pid, k, e⟩ = init.get ⟨some pid, k, e⟩

theorem AgreeOff.set {pid cur : Nat} (h : AgreeOff init fs pid cur) (e0 : Ext)
    (f : File) : AgreeOff init (fs.set ⟨some pid, cur, e0⟩ f) pid cur :=
  fun k e hk => (FS.get_set_ne fs f fun h => hk (FName.mk.inj h).2.1).trans (h k e hk)

theorem AgreeOff.erase {pid cur : Nat} (h : AgreeOff init fs pid cur) (e0 : Ext) :
    AgreeOff init (fs.erase ⟨some pid, cur, e0⟩) pid cur :=
  fun k e hk => (FS.get_erase_ne fs fun h => hk (FName.mk.inj h).2.1).trans (h k e hk)

theorem AgreeOff.all {pid cur : Nat} (h : AgreeOff init fs pid cur)
    (hcur : ∀ e, fs.get ⟨some pid, cur, e⟩ = init.get ⟨some pid, cur, e⟩) (k : Nat) (e : Ext) :
    fs.get ⟨some pid, k, e⟩ = init.get ⟨some pid, k, e⟩ :=
  if hk : k = cur then hk ▸ hcur e else h k e hk

/-- Invariant of one process: everything in its name space is as in the initial directory,
except the two files of the name it currently works on, which it created itself at a
moment when both were absent. -/
def LInv (init fs : FS) (p : Proc) : Prop :=
  p.counter = p.cur + 1 ∧
  p.binds = (List.range (boundCount p)).map (fun f => (f, Content.tag p.pid f)) ∧
  p.status ≠ .error ∧
  p.fn ≤ p.nfun ∧
  (p.status = .done → p.fn = p.nfun ∧ ∀ k e, fs.get (own p k e) = init.get (own p k e)) ∧
  (p.status = .running → p.fn < p.nfun ∧ AgreeOff init fs p.pid p.cur ∧ PcInv init fs p)

theorem LInv.running {p : Proc} (hs : p.status = .running) (hc : p.counter = p.cur + 1)
    (hb : p.binds = (List.range (boundCount p)).map (fun f => (f, Content.tag p.pid f)))
    (hlt : p.fn < p.nfun) (ho : AgreeOff init fs p.pid p.cur) (hpc : PcInv init fs p) : LInv init fs p :=
  ⟨hc, hb, hs ▸ nofun, Nat.le_of_lt hlt, hs ▸ nofun, fun _ => ⟨hlt, ho, hpc⟩⟩

theorem stepProc_LInv {p : Proc} (h : LInv init fs p) (hr : p.status = .running) :
    LInv init (stepProc true fs p).1 (stepProc true fs p).2 ∧
      measure init (stepProc true fs p).2 + 1 ≤ measure init p := by
  obtain ⟨pid, nfun, pc, counter, fn, cur, fd, gccOk, binds, status⟩ := p
  obtain ⟨hc, hb, -, hfn, -, hrun⟩ := h
  obtain rfl : status = .running := hr
  obtain ⟨hlt, ho, hpc⟩ := hrun rfl
  obtain rfl : counter = cur + 1 := hc
  dsimp only at hb hlt ho
  cases pc
  all_goals simp only [PcInv, own] at hpc
  case probeSo =>
    obtain ⟨fc, fso⟩ := hpc
    -- nothing of `p`'s in the directory yet: the whole name space is as it was initially
    have hall := ho.all (fun e => by cases e <;> assumption)
    simp only [stepProc, fname_true, own]
    cases hso : fs.get ⟨some pid, cur, .so⟩ with
    | none => exact ⟨.running rfl rfl hb hlt ho ⟨fso.symm.trans hso, hso, fc⟩, Nat.le_refl _⟩
    | some f =>
      exact ⟨.running rfl rfl hb hlt (fun k e _ => hall k e) ⟨hall _ _, hall _ _⟩,
        callsLeft_bump (Nat.le_of_ble_eq_true rfl) (staleFrom_lt init pid cur .so f (fso.symm.trans hso))⟩
  case probeC =>
    obtain ⟨iso, fso, fc⟩ := hpc
    have hall := ho.all (fun e => by cases e; exact fc; exact fso.trans iso.symm)
    simp only [stepProc, fname_true, own]
    cases hc : fs.get ⟨some pid, cur, .c⟩ with
    | none => exact ⟨.running rfl rfl hb hlt ho ⟨iso, fc.symm.trans hc, fso, hc⟩, Nat.le_refl _⟩
    | some f =>
      exact ⟨.running rfl rfl hb hlt (fun k e _ => hall k e) ⟨hall _ _, hall _ _⟩,
        callsLeft_bump (Nat.le_of_ble_eq_true rfl) (staleFrom_lt init pid cur .c f (fc.symm.trans hc))⟩
  case openC =>
    obtain ⟨iso, ic, fso, fc⟩ := hpc
    simp only [stepProc, fname_true, own, fc]
    exact ⟨.running rfl rfl hb hlt (ho.set _ _)
      ⟨iso, ic, (FS.get_set_ne _ _ so_ne_c).trans fso, FS.get_set_self .., rfl⟩, Nat.le_refl _⟩
  case writeC =>
    obtain ⟨iso, ic, fso, fc, hfd⟩ := hpc
    simp only [stepProc, fname_true, own, fc, hfd, if_true]
    exact ⟨.running rfl rfl hb hlt (ho.set _ _)
      ⟨iso, ic, (FS.get_set_ne _ _ so_ne_c).trans fso, FS.get_set_self ..⟩, Nat.le_refl _⟩
  case gcc =>
    obtain ⟨iso, ic, fso, fc⟩ := hpc
    simp only [stepProc, fname_true, own, fc]
    exact ⟨.running rfl rfl hb hlt (ho.set _ _)
      ⟨iso, ic, rfl, FS.get_set_self .., (FS.get_set_ne _ _ c_ne_so).trans fc⟩, Nat.le_refl _⟩
  case rmC =>
    obtain ⟨iso, ic, hok, fso, fc⟩ := hpc
    simp only [stepProc, fname_true, own, hok, if_true]
    exact ⟨.running rfl rfl hb hlt (ho.erase _)
      ⟨iso, ic, (FS.get_erase_ne _ so_ne_c).trans fso, FS.get_erase_self ..⟩, Nat.le_refl _⟩
  case dlopen =>
    obtain ⟨iso, ic, fso, fc⟩ := hpc
    simp only [stepProc, fname_true, own, fso]
    refine ⟨.running rfl rfl ?_ hlt ho ⟨iso, ic, fso, fc⟩, Nat.le_refl _⟩
    have hb : binds = List.map (fun f => (f, Content.tag pid f)) (List.range fn) := hb
    show binds ++ [(fn, Content.tag pid fn)] = List.map (fun f => (f, Content.tag pid f)) (List.range (fn + 1))
    rw [List.range_succ, List.map_append, ← hb]; rfl
  case rmSo =>
    obtain ⟨iso, ic, fso, fc⟩ := hpc
    -- both files of the current name are gone again
    have hall := (ho.erase .so).all (fun e => by
      cases e
      · exact ((FS.get_erase_ne _ c_ne_so).trans fc).trans ic.symm
      · exact (FS.get_erase_self ..).trans iso.symm)
    simp only [stepProc, fname_true, own, nextFn]
    split
    next h =>
      exact ⟨.running rfl rfl hb h (fun k e _ => hall k e) ⟨hall _ _, hall _ _⟩,
        callsLeft_nextFn h (staleFrom_mono init pid cur)⟩
    next h =>
      exact ⟨⟨rfl, hb, nofun, hlt, fun _ => ⟨Nat.le_antisymm hlt (Nat.not_lt.mp h), hall⟩, nofun⟩,
        callsLeft_pos ..⟩

theorem LInv_init (init : FS) (pid nfun : Nat) : LInv init init (Proc.init pid nfun) := by
  unfold Proc.init
  by_cases h : nfun = 0
  · subst h
    exact ⟨rfl, rfl, nofun, Nat.le_refl _, fun _ => ⟨rfl, fun _ _ => rfl⟩, nofun⟩
  · rw [if_neg h]
    exact .running rfl rfl rfl (Nat.pos_of_ne_zero h) (fun _ _ _ => rfl) ⟨rfl, rfl⟩

theorem measure_init_le (init : FS) (pid nfun : Nat) :
    measure init (Proc.init pid nfun) ≤ 8 * nfun + 2 * init.size := by
  have := staleFrom_le_length init pid 0
  unfold Proc.init
  by_cases h : nfun = 0
  · subst h; exact Nat.zero_le _
  · rw [if_neg h]
    show 2 * staleFrom init pid 0 + 8 * (nfun - 0 - 1) + 8 ≤ _
    omega

theorem LInv_frame {init fs fs' : FS} {q : Proc} (h : LInv init fs q)
    (hf : ∀ n, n.part = some q.pid → FS.get fs' n = FS.get fs n) : LInv init fs' q := by
  have key : ∀ k e, FS.get fs' ⟨some q.pid, k, e⟩ = FS.get fs ⟨some q.pid, k, e⟩ := fun k e => hf _ rfl
  unfold LInv PcInv AgreeOff own at *
  simp only [key]
  exact h

/-- `r` differs from `(fs, p)` at most in the two files `p` currently works on (whichever naming is
used) and in the fields of `p` that are not constants -/
def Frame (u : Bool) (fs : FS) (p : Proc) (r : FS × Proc) : Prop :=
  (r.2.pid = p.pid ∧ r.2.nfun = p.nfun) ∧ ∀ n, (∀ e, n ≠ fname u p e) → r.1.get n = fs.get n

theorem Frame.keep {u : Bool} {fs : FS} {p p' : Proc} (h : p'.pid = p.pid ∧ p'.nfun = p.nfun) :
    Frame u fs p (fs, p') :=
  ⟨h, fun _ _ => rfl⟩

theorem Frame.set {u : Bool} {fs : FS} {p p' : Proc} (e : Ext) (f : File)
    (h : p'.pid = p.pid ∧ p'.nfun = p.nfun) : Frame u fs p (fs.set (fname u p e) f, p') :=
  ⟨h, fun _ hn => FS.get_set_ne _ _ (hn e)⟩

theorem Frame.erase {u : Bool} {fs : FS} {p p' : Proc} (e : Ext)
    (h : p'.pid = p.pid ∧ p'.nfun = p.nfun) : Frame u fs p (fs.erase (fname u p e), p') :=
  ⟨h, fun _ hn => FS.get_erase_ne _ (hn e)⟩

theorem stepProc_frame (u : Bool) (fs : FS) (p : Proc) : Frame u fs p (stepProc u fs p) := by
  unfold stepProc
  split
  · split <;> exact .keep ⟨rfl, rfl⟩
  · split <;> exact .keep ⟨rfl, rfl⟩
  · split <;> exact .set _ _ ⟨rfl, rfl⟩
  · split
    · split
      · exact .set _ _ ⟨rfl, rfl⟩
      · exact .keep ⟨rfl, rfl⟩
    · exact .keep ⟨rfl, rfl⟩
  · split
    · exact .set _ _ ⟨rfl, rfl⟩
    · exact .keep ⟨rfl, rfl⟩
  · exact .erase _ (by split <;> exact ⟨rfl, rfl⟩)
  · split <;> exact .keep ⟨rfl, rfl⟩
  · exact .erase _ (by unfold nextFn; split <;> exact ⟨rfl, rfl⟩)

/-! ### all processes of a configuration -/

theorem step_none (u : Bool) (w : World) {i : Nat} (hp : w.procs[i]? = none) : step u w i = w := by
  unfold step; rw [hp]

theorem step_stopped (u : Bool) (w : World) {i : Nat} {p : Proc} (hp : w.procs[i]? = some p)
    (hr : p.status ≠ .running) : step u w i = w := by
  unfold step
  rw [hp]
  cases hs : p.status <;> simp_all

theorem step_running (u : Bool) (w : World) {i : Nat} {p : Proc} (hp : w.procs[i]? = some p)
    (hr : p.status = .running) :
    step u w i = ⟨(stepProc u w.fs p).1, w.procs.set i (stepProc u w.fs p).2⟩ := by
  unfold step
  rw [hp]
  simp only [hr]

theorem step_other (u : Bool) (w : World) {i j : Nat} (h : i ≠ j) :
    (step u w j).procs[i]? = w.procs[i]? := by
  cases hq : w.procs[j]? with
  | none => rw [step_none u w hq]
  | some q =>
    by_cases hr : q.status = .running
    · rw [step_running u w hq hr]; exact List.getElem?_set_ne (Ne.symm h)
    · rw [step_stopped u w hq hr]

/-- The processes are those of `cfg` (their constants never change); each satisfies its invariant;
the paths in nobody's name space are as in the initial directory. -/
structure Inv (init : FS) (cfg : List (Nat × Nat)) (w : World) : Prop where
  consts : w.procs.map (fun p => (p.pid, p.nfun)) = cfg
  loc : ∀ (i : Nat) (p : Proc), w.procs[i]? = some p → LInv init w.fs p
  frame : ∀ n, (∀ c ∈ cfg, n.part ≠ some c.1) → w.fs.get n = init.get n

theorem Inv.getElem? (h : Inv init cfg w) {i : Nat}
    {p : Proc} (hp : w.procs[i]? = some p) : cfg[i]? = some (p.pid, p.nfun) := by
  rw [← h.consts, List.getElem?_map, hp]; rfl

theorem Inv_init (init : FS) (cfg : List (Nat × Nat)) : Inv init cfg ⟨init, mkProcs cfg⟩ := by
  refine ⟨?_, fun i p hp => ?_, fun _ _ => rfl⟩
  · simp only [mkProcs, List.map_map]
    exact List.map_id' cfg
  · simp only [mkProcs, List.getElem?_map, Option.map_eq_some_iff] at hp
    obtain ⟨a, -, rfl⟩ := hp
    exact LInv_init init a.1 a.2

theorem step_Inv (hpid : (cfg.map (·.1)).Nodup)
    (h : Inv init cfg w) (j : Nat) : Inv init cfg (step true w j) := by
  cases hq : w.procs[j]? with
  | none => rw [step_none true w hq]; exact h
  | some q =>
    by_cases hr : q.status = .running
    · rw [step_running true w hq hr]
      obtain ⟨⟨hcp, hcn⟩, hfr⟩ := stepProc_frame true w.fs q
      obtain ⟨hjl, rfl⟩ := List.getElem?_eq_some_iff.mp hq
      -- a path whose pid part is not `q`'s is not touched
      have hfr' : ∀ n, n.part ≠ some w.procs[j].pid →
          (stepProc true w.fs w.procs[j]).1.get n = w.fs.get n :=
        fun n hn => hfr n fun e he => hn (he ▸ rfl)
      refine ⟨?_, fun i p hp => ?_, fun n hn => ?_⟩
      · obtain ⟨hl, e⟩ := List.getElem?_eq_some_iff.mp (h.getElem? hq)
        rw [List.map_set, hcp, hcn, h.consts, ← e, List.set_getElem_self]
      · by_cases hji : j = i
        · subst hji
          rw [List.getElem?_set_self hjl] at hp
          cases hp
          exact (stepProc_LInv (h.loc j _ hq) hr).1
        · rw [List.getElem?_set_ne hji] at hp
          refine LInv_frame (h.loc i p hp) fun n hn => hfr' n fun hn' => hji ?_
          -- equal pids at `j` and `i`: the same entry of `cfg`
          have e1 := congrArg (Option.map (·.1)) (h.getElem? hq)
          have e2 := congrArg (Option.map (·.1)) (h.getElem? hp)
          rw [← List.getElem?_map] at e1 e2
          refine (List.getElem?_inj (by rw [List.length_map, ← h.consts, List.length_map]; exact hjl) hpid).mp
            (e1.trans ?_ |>.trans e2.symm)
          exact hn'.symm.trans hn
      · rw [hfr' n (hn _ (List.mem_of_getElem? (h.getElem? hq))), h.frame n hn]
    · rw [step_stopped true w hq hr]; exact h

theorem runFrom_Inv (hpid : (cfg.map (·.1)).Nodup)
    (sched : List Nat) (h : Inv init cfg w) : Inv init cfg (runFrom true w sched) := by
  induction sched generalizing w with
  | nil => exact h
  | cons i rest ih => exact ih (step_Inv hpid h i)

theorem Inv_done_clean (h : Inv init cfg w)
    (hd : ∀ p ∈ w.procs, p.status = .done) (n : FName) : w.fs.get n = init.get n := by
  by_cases hex : ∃ c ∈ cfg, n.part = some c.1
  · obtain ⟨c, hc, hn⟩ := hex
    obtain ⟨p, hp, rfl⟩ := List.mem_map.mp (h.consts ▸ hc)
    obtain ⟨i, hi⟩ := List.mem_iff_getElem?.mp hp
    obtain ⟨-, -, -, -, hdone, -⟩ := h.loc i p hi
    have := (hdone (hd p hp)).2 n.k n.ext
    rwa [own, ← hn] at this
  · exact h.frame n fun c hc hn => hex ⟨c, hc, hn⟩

/-! ### progress: the measure of a process pays for each time it is scheduled -/

def measureAt (init : FS) (w : World) (i : Nat) : Nat :=
  match w.procs[i]? with
  | some p => measure init p
  | none => 0

theorem measure_of_stopped (init : FS) {p : Proc} (h : p.status ≠ .running) : measure init p = 0 := by
  unfold measure
  split
  · contradiction
  · rfl

theorem step_measureAt (h : Inv init cfg w)
    (i j : Nat) :
    measureAt init (step true w j) i ≤ measureAt init w i - (if j == i then 1 else 0) := by
  by_cases hji : j = i
  · subst hji
    rw [if_pos (beq_self_eq_true j)]
    cases hq : w.procs[j]? with
    | none => rw [step_none true w hq, measureAt, hq]; exact Nat.zero_le _
    | some q =>
      by_cases hr : q.status = .running
      · rw [step_running true w hq hr]
        simp only [measureAt, List.getElem?_set_self (List.getElem?_eq_some_iff.mp hq).1, hq]
        exact Nat.le_sub_of_add_le (stepProc_LInv (h.loc j q hq) hr).2
      · rw [step_stopped true w hq hr]
        simp only [measureAt, hq, measure_of_stopped init hr]
        exact Nat.zero_le _
  · rw [beq_false_of_ne hji, if_neg Bool.false_ne_true, measureAt, step_other true w (Ne.symm hji)]
    exact Nat.le_refl _

theorem runFrom_measureAt (hpid : (cfg.map (·.1)).Nodup)
    (sched : List Nat) (h : Inv init cfg w) (i : Nat) :
    measureAt init (runFrom true w sched) i ≤ measureAt init w i - sched.count i := by
  induction sched generalizing w with
  | nil => exact Nat.le_refl _
  | cons j rest ih =>
    rw [List.count_cons, Nat.add_comm, ← Nat.sub_sub]
    exact Nat.le_trans (ih (step_Inv hpid h j)) (Nat.sub_le_sub_right (step_measureAt h i j) _)


theorem stepCoarse_cases (u : Bool) (w : World) (i : Nat) :
    stepCoarse u w i = step u w i ∨ stepCoarse u w i = step u (step u w i) i := by
  unfold stepCoarse
  simp only
  split
  · split
    · exact Or.inr rfl
    · exact Or.inl rfl
  · exact Or.inl rfl

theorem foldl_stepCoarse_fine (u : Bool) (sched : List Nat) (w : World) :
    ∃ sched', sched.foldl (stepCoarse u) w = runFrom u w sched' := by
  induction sched generalizing w with
  | nil => exact ⟨[], rfl⟩
  | cons i rest ih =>
    rcases stepCoarse_cases u w i with h | h
    · obtain ⟨s', hs'⟩ := ih (step u w i)
      exact ⟨i :: s', by simp only [List.foldl_cons, h, hs', runFrom]⟩
    · obtain ⟨s', hs'⟩ := ih (step u (step u w i) i)
      exact ⟨i :: i :: s', by simp only [List.foldl_cons, h, hs', runFrom]⟩

/-! ### a schedule that finishes everything: the processes one after the other -/

def seqSched : List (Nat × Nat) → Nat → Nat → List Nat
  | [], _, _ => []
  | a :: rest, i, sz => List.replicate (8 * a.2 + 2 * sz) i ++ seqSched rest (i + 1) sz

theorem seqSched_count (cfg : List (Nat × Nat)) (i sz j : Nat) (b : Nat × Nat)
    (hj : cfg[j]? = some b) : 8 * b.2 + 2 * sz ≤ (seqSched cfg i sz).count (i + j) := by
  induction cfg generalizing i j with
  | nil => cases hj
  | cons a tl ih =>
    rw [seqSched, List.count_append]
    cases j with
    | zero =>
      cases hj
      rw [Nat.add_zero, List.count_replicate_self]
      exact Nat.le_add_right ..
    | succ j =>
      rw [← Nat.succ_add_eq_add_succ]
      exact Nat.le_trans (ih (i + 1) j hj) (Nat.le_add_left ..)

end Sympler.FuncCompile
