import Sympler.Verlet

/-!
Helper lemmas for `Props/C02.lean`: the displacement scan (`Sympler.Verlet.scanLoop` around the
GENERATED body `Sympler.Gen.Verlet.scanBody`) keeps the two largest magnitudes seen so far, which is
all that "every sum of two different magnitudes is below the skin" depends on.  Core Lean only.
-/
namespace Sympler.Verlet
open Sympler.Gen.Verlet

/-! ### the displacement scan -/

/-- One iteration of the GENERATED loop body keeps the two largest of `m1`, `m2`, `t` (the only
place where `scanBody` is unfolded). -/
theorem scanBody_spec (skin m1 m2 t : Rat) :
    ∃ a b, scanBody skin m1 m2 t = (a, b, decide (a + b ≥ skin)) ∧
      ((m1 < t ∧ a = t ∧ b = m1) ∨ (¬ m1 < t ∧ m2 < t ∧ a = m1 ∧ b = t) ∨
       (¬ m1 < t ∧ ¬ m2 < t ∧ a = m1 ∧ b = m2)) := by
  unfold scanBody
  by_cases h1 : m1 < t
  · exact ⟨t, m1, by simp [h1], by simp [h1]⟩
  · by_cases h2 : m2 < t
    · exact ⟨m1, t, by simp [h1, h2], by simp [h1, h2]⟩
    · exact ⟨m1, m2, by simp [h1, h2], by simp [h1, h2]⟩

abbrev PairsBelow (skin : Rat) (l : List Rat) : Prop := l.Pairwise fun x y => x + y < skin

theorem pairwise_sum_iff (skin : Rat) (ms : List Rat) :
    PairsBelow skin ms ↔
      ∀ (i j : Nat) (hi : i < ms.length) (hj : j < ms.length), i ≠ j → ms[i] + ms[j] < skin := by
  rw [PairsBelow, List.pairwise_iff_getElem]
  constructor
  · intro h i j hi hj hne
    rcases Nat.lt_or_gt_of_ne hne with hlt | hgt
    · exact h i j hi hj hlt
    · exact Rat.add_comm _ _ ▸ h j i hj hi hgt
  · intro h i j hi hj hlt
    exact h i j hi hj (Nat.ne_of_lt hlt)

/-- An entry that is at most two of the others is irrelevant for "all pair sums are below `skin`". -/
theorem pairwise_sum_dominated {skin a b c : Rat} {l : List Rat} (hca : c ≤ a) (hcb : c ≤ b) :
    PairsBelow skin (a :: b :: c :: l) ↔ PairsBelow skin (a :: b :: l) := by
  simp only [PairsBelow, List.pairwise_cons, List.mem_cons, forall_eq_or_imp]
  constructor
  · rintro ⟨⟨hab, _, ha⟩, ⟨_, hb⟩, _, hl⟩
    exact ⟨⟨hab, ha⟩, hb, hl⟩
  · rintro ⟨⟨hab, ha⟩, hb, hl⟩
    refine ⟨⟨hab, ?_, ha⟩, ⟨?_, hb⟩, fun x hx => ?_, hl⟩
    · exact Std.lt_of_le_of_lt (Rat.add_le_add_left.mpr hcb) hab
    · exact Std.lt_of_le_of_lt (Rat.add_le_add_left.mpr hca) (Rat.add_comm a b ▸ hab)
    · exact Std.lt_of_le_of_lt (Rat.add_le_add_right.mpr hcb) (hb x hx)

/-- One iteration from a state `b ≤ a`: the new state `b' ≤ a'` is `a, b, t` without its smallest
entry, so it stands for `a, b, t` in every question about pair sums. -/
theorem scanLoop_cons {skin a b : Rat} (hba : b ≤ a) (t : Rat) (rest : List Rat) :
    ∃ a' b', b' ≤ a' ∧
      (∀ l : List Rat, PairsBelow skin (a' :: b' :: l) ↔ PairsBelow skin (a :: b :: t :: l)) ∧
      (scanLoop skin a b (t :: rest) = false ↔
        a' + b' < skin ∧ scanLoop skin a' b' rest = false) := by
  have symm : ∀ {x y : Rat}, x + y < skin → y + x < skin := fun h => Rat.add_comm _ _ ▸ h
  obtain ⟨a', b', hb, hc⟩ := scanBody_spec skin a b t
  refine ⟨a', b', ?_, fun l => ?_, by simp [scanLoop, hb, Rat.not_le]⟩
  · rcases hc with ⟨h, rfl, rfl⟩ | ⟨h, _, rfl, rfl⟩ | ⟨_, _, rfl, rfl⟩
    · exact Rat.le_of_lt h
    · exact Rat.not_lt.mp h
    · exact hba
  · -- move the smallest of `a, b, t` behind the other two, then drop it
    rcases hc with ⟨h, rfl, rfl⟩ | ⟨_, h, rfl, rfl⟩ | ⟨_, h, rfl, rfl⟩
    · rw [← pairwise_sum_dominated (Rat.le_trans hba (Rat.le_of_lt h)) hba]
      exact List.Perm.pairwise_iff symm (List.perm_middle (l₁ := [b', b])).symm
    · rw [← pairwise_sum_dominated hba (Rat.le_of_lt h)]
      exact List.Perm.pairwise_iff symm ((List.Perm.swap b b' l).cons a')
    · exact (pairwise_sum_dominated (Rat.le_trans (Rat.not_lt.mp h) hba) (Rat.not_lt.mp h)).symm

/-- The scan decides by the two largest magnitudes. -/
theorem scanLoop_eq_false_iff (skin : Rat) : ∀ (rest : List Rat) (a b : Rat), b ≤ a →
    (scanLoop skin a b rest = false ↔ rest = [] ∨ PairsBelow skin (a :: b :: rest)) := by
  intro rest
  induction rest with
  | nil => intros; simp [scanLoop]
  | cons t rest ih =>
    intro a b hba
    obtain ⟨a', b', hba', hP, hs⟩ := scanLoop_cons (skin := skin) hba t rest
    rw [hs, ih a' b' hba', ← hP rest]
    constructor
    · rintro ⟨h, rfl | hp⟩
      · exact Or.inr (by simpa [PairsBelow] using h)
      · exact Or.inr hp
    · rintro (h | hp)
      · cases h
      · exact ⟨(List.pairwise_cons.mp hp).1 b' (List.mem_cons_self ..), Or.inr hp⟩

/-! ### the pre-fix loop -/

/-- One iteration of the pre-fix body: the new maximum is at least `t`, and `max2` never decreases
(nothing more is true of it: the old maximum is lost). -/
theorem scanBodyOld_spec (skin m1 m2 t : Rat) :
    ∃ a b, scanBodyOld skin m1 m2 t = (a, b, decide (a + b ≥ skin)) ∧ t ≤ a ∧ m2 ≤ b := by
  unfold scanBodyOld
  by_cases h1 : m1 < t
  · exact ⟨t, m2, by simp [h1], Rat.le_refl, Rat.le_refl⟩
  · by_cases h2 : m2 < t
    · exact ⟨m1, t, by simp [h1, h2], Rat.not_lt.mp h1, Rat.le_of_lt h2⟩
    · exact ⟨m1, m2, by simp [h1, h2], Rat.not_lt.mp h1, Rat.le_refl⟩

theorem scanOldLoop_false (skin : Rat) : ∀ (rest : List Rat) (m1 m2 : Rat), 0 ≤ m2 →
    scanOldLoop skin m1 m2 rest = false → ∀ x ∈ rest, x < skin := by
  intro rest
  induction rest with
  | nil => intros; simp_all
  | cons t rest ih =>
    intro m1 m2 h0 h x hx
    obtain ⟨a, b, hb, hta, hm2b⟩ := scanBodyOld_spec skin m1 m2 t
    have h0b := Rat.le_trans h0 hm2b
    simp [scanOldLoop, hb, Rat.not_le] at h
    rcases List.mem_cons.mp hx with rfl | hx
    · -- `x ≤ a ≤ a + b < skin`
      have : x + 0 ≤ a + b :=
        Rat.le_trans (Rat.add_le_add_right.mpr hta) (Rat.add_le_add_left.mpr h0b)
      exact Std.lt_of_le_of_lt (Rat.add_zero x ▸ this) h.1
    · exact ih a b h0b h.2 x hx

/-! ### counter mode -/

theorem everyRunFrom_length (every : Nat) : ∀ n c, (everyRunFrom every n c).length = n := by
  intro n
  induction n with
  | zero => intro c; rfl
  | succ n ih => intro c; simp [everyRunFrom, ih]

/-- The counter runs through `1, …, every`, after the initial `0`, so `c % every` is `0` exactly at `0` and
`every`, where the list is rebuilt and the counter restarts at 1. -/
theorem everyStep_spec {every c : Nat} (hE : 1 ≤ every) (hc : c ≤ every) :
    everyStep every c = (decide (c % every = 0), c % every + 1) := by
  unfold everyStep everyDecision counterAfterRebuild counterAfterRefresh
  rcases Nat.lt_or_eq_of_le hc with hlt | rfl
  · rw [Nat.mod_eq_of_lt hlt]
    have : c ≠ every := Nat.ne_of_lt hlt
    cases c <;> simp [this]
  · simp

theorem everyRunFrom_getElem (every : Nat) (hE : 1 ≤ every) : ∀ (n c k : Nat), c ≤ every →
    (h : k < (everyRunFrom every n c).length) →
    (everyRunFrom every n c)[k] = decide ((c + k) % every = 0) := by
  intro n
  induction n with
  | zero => intro c k _ h; simp [everyRunFrom] at h
  | succ n ih =>
    intro c k hc h
    simp only [everyRunFrom, everyStep_spec hE hc]
    cases k with
    | zero => rfl
    | succ k =>
      rw [List.getElem_cons_succ, ih _ k (Nat.mod_lt c hE), Nat.succ_add_eq_add_succ,
        Nat.mod_add_mod]

/-! ### the refresh wrap -/

theorem half_mul (L : Rat) : (1 : Rat) / 2 * L = L / 2 := by grind

theorem refreshWrap_of_gt {L c : Rat} (h : L / 2 < c) : refreshWrap L c = c - L := by
  have h2 : ¬ c - L < -(L / 2) := by grind
  simp [refreshWrap, half_mul, h, h2]

/-- (for `L < 0` the first test could fire as well) -/
theorem refreshWrap_of_lt {L c : Rat} (hL : 0 ≤ L) (h : c < -(L / 2)) :
    refreshWrap L c = c + L := by
  have h2 : ¬ L / 2 < c := by grind
  simp [refreshWrap, half_mul, h, h2]

theorem refreshWrap_of_mid {L c : Rat} (h1 : -(L / 2) ≤ c) (h2 : c ≤ L / 2) :
    refreshWrap L c = c := by
  simp [refreshWrap, half_mul, Rat.not_lt.mpr h1, Rat.not_lt.mpr h2]

theorem refreshWrap_cases {L : Rat} (hL : 0 ≤ L) (c : Rat) :
    (L / 2 < c ∧ refreshWrap L c = c - L) ∨ (c < -(L / 2) ∧ refreshWrap L c = c + L) ∨
      (-(L / 2) ≤ c ∧ c ≤ L / 2 ∧ refreshWrap L c = c) := by
  by_cases h1 : L / 2 < c
  · exact Or.inl ⟨h1, refreshWrap_of_gt h1⟩
  · by_cases h2 : c < -(L / 2)
    · exact Or.inr (Or.inl ⟨h2, refreshWrap_of_lt hL h2⟩)
    · have h1 := Rat.not_lt.mp h1
      have h2 := Rat.not_lt.mp h2
      exact Or.inr (Or.inr ⟨h2, h1, refreshWrap_of_mid h2 h1⟩)

theorem exists_between {l l' u u' : Rat} (h1 : l < u) (h2 : l < u') (h3 : l' < u) (h4 : l' < u') :
    ∃ c, l < c ∧ l' < c ∧ c < u ∧ c < u' := by
  -- the midpoint of the larger lower and the smaller upper bound
  have mid : ∀ {l l' u u' : Rat}, l' ≤ l → u ≤ u' → l < u → ∃ c, l < c ∧ l' < c ∧ c < u ∧ c < u' :=
    fun {l _ u _} hl hu h =>
      have hlc : l < (l + u) / 2 := by grind
      have hcu : (l + u) / 2 < u := by grind
      ⟨(l + u) / 2, hlc, Std.lt_of_le_of_lt hl hlc, hcu, Std.lt_of_lt_of_le hcu hu⟩
  rcases Rat.le_total (a := l) (b := l') with hl | hl <;>
    rcases Rat.le_total (a := u) (b := u') with hu | hu
  · obtain ⟨c, a, b, c', d⟩ := mid hl hu h3; exact ⟨c, b, a, c', d⟩
  · obtain ⟨c, a, b, c', d⟩ := mid hl hu h4; exact ⟨c, b, a, d, c'⟩
  · exact mid hl hu h1
  · obtain ⟨c, a, b, c', d⟩ := mid hl hu h2; exact ⟨c, a, b, d, c'⟩

end Sympler.Verlet
