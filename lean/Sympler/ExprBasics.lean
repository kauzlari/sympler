import Sympler.Expr

/-!
# C03 — what the parser side and the emitter side of the lemma files share

`Except` and `mapM` lemmas, and the well-formedness of trees (`Tree.wf`), which the parser establishes
and the emitter lemmas assume.

Core Lean only.
-/
namespace Sympler.Expr

/-! ## `Except`, `mapM`, `divRat` -/

theorem bind_ok {α β ε : Type} {x : Except ε α} {f : α → Except ε β} {r : β}
    (h : (x >>= f) = .ok r) : ∃ a, x = .ok a ∧ f a = .ok r := by
  cases x with
  | error e => cases h
  | ok a => exact ⟨a, rfl, h⟩

theorem bind_error {α β ε : Type} {x : Except ε α} {f : α → Except ε β} {e : ε}
    (h : (x >>= f) = .error e) : x = .error e ∨ ∃ a, x = .ok a ∧ f a = .error e := by
  cases x with
  | error e' => left; simpa [bind, Except.bind] using h
  | ok a => right; exact ⟨a, rfl, h⟩

theorem V3.mapM_ok {α β ε : Type} {f : α → Except ε β} {a : V3 α} {r : V3 β} (h : a.mapM f = .ok r) :
    f a.x = .ok r.x ∧ f a.y = .ok r.y ∧ f a.z = .ok r.z := by
  obtain ⟨_, h0, h⟩ := bind_ok h
  obtain ⟨_, h1, h⟩ := bind_ok h
  obtain ⟨_, h2, h⟩ := bind_ok h
  cases h
  exact ⟨h0, h1, h2⟩

theorem M9.mapM_ok {α β ε : Type} {f : α → Except ε β} {a : M9 α} {r : M9 β} (h : a.mapM f = .ok r) :
    f a.xx = .ok r.xx ∧ f a.xy = .ok r.xy ∧ f a.xz = .ok r.xz ∧ f a.yx = .ok r.yx ∧
    f a.yy = .ok r.yy ∧ f a.yz = .ok r.yz ∧ f a.zx = .ok r.zx ∧ f a.zy = .ok r.zy ∧
    f a.zz = .ok r.zz := by
  obtain ⟨_, h0, h⟩ := bind_ok h
  obtain ⟨_, h1, h⟩ := bind_ok h
  obtain ⟨_, h2, h⟩ := bind_ok h
  obtain ⟨_, h3, h⟩ := bind_ok h
  obtain ⟨_, h4, h⟩ := bind_ok h
  obtain ⟨_, h5, h⟩ := bind_ok h
  obtain ⟨_, h6, h⟩ := bind_ok h
  obtain ⟨_, h7, h⟩ := bind_ok h
  obtain ⟨_, h8, h⟩ := bind_ok h
  cases h
  exact ⟨h0, h1, h2, h3, h4, h5, h6, h7, h8⟩

theorem divRat_ok {x b y : Rat} (h : divRat x b = .ok y) : b ≠ 0 ∧ y = x / b := by
  unfold divRat at h
  split at h
  · cases h
  · injection h with h; exact ⟨‹_›, h.symm⟩

/-! ## Well-formed trees -/

def isIdent (f : List Char) : Bool :=
  match f with
  | c :: _ => (c.isAlpha || c = '_') && f.all isIdChar
  | [] => false

def opChar (c : Char) : Bool := c = '+' || c = '-' || c = '*' || c = '/'

/-- a harmless first character: no operator, not `d`, no white space -/
def goodHead (cs : List Char) : Bool := cs.head?.any (fun c => !opChar c && c != 'd' && !isSpace c)

/-- the C names a `lib` function may carry: identifiers other than `rand`, not starting with `d` -/
def cnameOK (c : String) : Bool := isIdent c.toList && c != "rand" && goodHead c.toList

def Fn.wf : Fn → Bool
  | .lib _ c => cnameOK c
  | _ => true

/-- every `lib` function of the tree carries an admissible C name (true for all trees `parse` builds:
`parse_wf`) -/
def Tree.wf : Tree → Bool
  | .sym _ => true
  | .num _ => true
  | .pi => true
  | .neg a => a.wf
  | .bin _ a b => a.wf && b.wf
  | .fn f a => f.wf && a.wf

end Sympler.Expr
