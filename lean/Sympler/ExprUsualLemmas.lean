import Sympler.ExprSurfaceLemmas

/-!
# C03 — the usual grammar against the grammar of the parser

For an expression `u` of the usual grammar (`SE.okU`: `+ -` one level, `* /` one level, left-associative),
`u.resym` has the same text, belongs to the parser's grammar (`SE.ok`), and whenever the tree of
`u.resym` evaluates, the tree of `u` (the usual reading) evaluates to the same value.

Core Lean only.
-/
namespace Sympler.Expr

namespace SE

theorem render_subR (a b : SE) : (subR a b).render = a.render ++ ('-' :: b.render) := by
  unfold subR
  split
  · simp [render, BinOp.ch]
  · rfl

theorem render_divR (a b : SE) : (divR a b).render = a.render ++ ('/' :: b.render) := by
  unfold divR
  split
  · simp [render, BinOp.ch]
  · rfl

theorem render_resym : ∀ (u : SE), u.resym.render = u.render := by
  intro u
  induction u with
  | atom s => rfl
  | fn f e ih => simp [resym, render, ih]
  | paren e ih => simp [resym, render, ih]
  | neg e ih => simp [resym, render, ih]
  | bin op a b iha ihb =>
    cases op <;> simp [resym, render, render_subR, render_divR, iha, ihb, BinOp.ch]

theorem lvl_bin (op : BinOp) (a b : SE) : (bin op a b).lvl = op.prec := rfl

theorem ulvl_le_lvl_resym : ∀ (u : SE), u.ulvl ≤ u.resym.lvl := by
  intro u
  cases u with
  | neg e => exact Nat.zero_le _
  | bin op a b =>
    cases op
    case sub => exact Nat.zero_le _
    case div =>
      show 2 ≤ (divR a.resym b.resym).lvl
      unfold divR; split <;> simp [lvl, BinOp.prec]
    all_goals exact Nat.le_refl _
  | _ => exact Nat.le_refl _

/-- the usual levels are `0 2 4 5 6 7 8` -/
theorem ulvl_ne (u : SE) : u.ulvl ≠ 1 ∧ u.ulvl ≠ 3 := by
  cases u with
  | bin op a b => cases op <;> simp [ulvl]
  | _ => simp [ulvl]

theorem lvl_ne_add {a : SE} (h : ∀ a1 a2, a ≠ bin .add a1 a2) : 1 ≤ a.lvl := by
  cases a with
  | bin op a1 a2 =>
    cases op <;> simp [lvl, BinOp.prec]
    exact absurd rfl (h a1 a2)
  | _ => simp [lvl]

theorem lvl_ne_mul {a : SE} (h : ∀ a1 a2, a ≠ bin .mul a1 a2) (hl : 2 ≤ a.lvl) : 3 ≤ a.lvl := by
  cases a with
  | bin op a1 a2 =>
    cases op <;> simp [lvl, BinOp.prec] at hl ⊢
    exact absurd rfl (h a1 a2)
  | _ => simp [lvl] at hl ⊢

theorem ok_subR {a b : SE} (ha : a.ok = true) (hb : b.ok = true) (hbl : 2 ≤ b.lvl) :
    (subR a b).ok = true := by
  unfold subR
  split
  next a1 a2 =>
    obtain ⟨h1, h2, h3, h4⟩ := (ok_bin_iff _ _ _).mp ha
    simp only [BinOp.prec] at h3 h4
    refine (ok_bin_iff _ _ _).mpr ⟨h1, (ok_bin_iff _ _ _).mpr ⟨h2, hb, ?_, ?_⟩, ?_, ?_⟩ <;>
      simp only [lvl_bin, BinOp.prec] <;> omega
  next hna =>
    have := lvl_ne_add (a := a) (fun a1 a2 h => hna a1 a2 h)
    refine (ok_bin_iff _ _ _).mpr ⟨ha, hb, ?_, ?_⟩ <;> simp only [BinOp.prec] <;> omega

theorem ok_divR {a b : SE} (ha : a.ok = true) (hal : 2 ≤ a.lvl) (hb : b.ok = true) (hbl : 4 ≤ b.lvl) :
    (divR a b).ok = true := by
  unfold divR
  split
  next a1 a2 =>
    obtain ⟨h1, h2, h3, h4⟩ := (ok_bin_iff _ _ _).mp ha
    simp only [BinOp.prec] at h3 h4
    refine (ok_bin_iff _ _ _).mpr ⟨h1, (ok_bin_iff _ _ _).mpr ⟨h2, hb, ?_, ?_⟩, ?_, ?_⟩ <;>
      simp only [lvl_bin, BinOp.prec] <;> omega
  next hna =>
    have := lvl_ne_mul (a := a) (fun a1 a2 h => hna a1 a2 h) hal
    refine (ok_bin_iff _ _ _).mpr ⟨ha, hb, ?_, ?_⟩ <;> simp only [BinOp.prec] <;> omega

theorem ok_resym : ∀ (u : SE), u.okU = true → u.resym.ok = true := by
  intro u
  induction u with
  | atom s => intro h; exact h
  | fn f e ih =>
    intro h
    simp only [okU, Bool.and_eq_true] at h
    exact (ok_fn_iff f _).mpr ⟨h.1, ih h.2⟩
  | paren e ih => intro h; exact ih h
  | neg e ih =>
    intro h
    simp only [okU, Bool.and_eq_true, decide_eq_true_eq] at h
    exact (ok_neg_iff _).mpr ⟨ih h.1, Nat.le_trans h.2 (ulvl_le_lvl_resym e)⟩
  | bin op a b iha ihb =>
    intro h
    simp only [okU, Bool.and_eq_true, decide_eq_true_eq] at h
    obtain ⟨⟨⟨hoa, hob⟩, hla⟩, hlb⟩ := h
    have la := ulvl_le_lvl_resym a
    have lb := ulvl_le_lvl_resym b
    have nb := ulvl_ne b
    -- `uprec op` is `op.prec` but for `-` and `/`, which share the levels of `+` and `*`
    cases op
    case sub => exact ok_subR (iha hoa) (ihb hob) (by have hlb : 1 ≤ b.ulvl := hlb; omega)
    case div =>
      exact ok_divR (iha hoa) (Nat.le_trans hla la) (ihb hob) (by have hlb : 3 ≤ b.ulvl := hlb; omega)
    all_goals
      exact (ok_bin_iff _ _ _).mpr ⟨iha hoa, ihb hob, Nat.le_trans hla la, Nat.le_trans hlb lb⟩

end SE

/-! ## Values: `x + (c - y) = (x + c) - y` and `x * (c / y) = (x * c) / y` with their side conditions -/

theorem add_sub_assoc (x c y : Rat) : x + (c - y) = x + c - y := by
  rw [Rat.sub_eq_add_neg, Rat.sub_eq_add_neg, Rat.add_assoc]

theorem mul_div_assoc (x c y : Rat) : x * (c / y) = x * c / y := by
  rw [Rat.div_def, Rat.div_def, Rat.mul_assoc]

theorem div_mul_comm (x c y : Rat) : c / y * x = c * x / y := by
  rw [Rat.div_def, Rat.div_def, Rat.mul_assoc, Rat.mul_comm y⁻¹, Rat.mul_assoc]

theorem add_sub_assoc_val (env : Env) {x c y d w : Val Rat}
    (h1 : evalBin env .sub c y = .ok d) (h2 : evalBin env .add x d = .ok w) :
    ∃ u, evalBin env .add x c = .ok u ∧ evalBin env .sub u y = .ok w := by
  cases c <;> cases y <;>
  simp [evalBin, Val.zipM, V3.zip, V3.mapM, M9.zip, M9.mapM, bind, Except.bind, pure, Except.pure] at h1 <;>
  subst h1 <;> cases x <;>
  simp [evalBin, Val.zipM, V3.zip, V3.mapM, M9.zip, M9.mapM, bind, Except.bind, pure, Except.pure] at h2 ⊢ <;>
  subst h2 <;> simp only [add_sub_assoc]

theorem div_s_iff (env : Env) {a d : Val Rat} {b : Rat} :
    evalBin env .div a (.s b) = .ok d ↔ b ≠ 0 ∧ d = a.map (· / b) := by
  by_cases hb : b = 0
  · subst hb
    cases a <;> simp [evalBin, Val.mapM, V3.mapM, M9.mapM, divRat, bind, Except.bind]
  · cases a <;>
      simp [evalBin, Val.mapM, V3.mapM, M9.mapM, Val.map, V3.map, M9.map, divRat, hb, bind, Except.bind,
        pure, Except.pure, eq_comm]

theorem div_vv_iff (env : Env) {a b : V3 Rat} {d : Val Rat} :
    evalBin env .div (.v a) (.v b) = .ok d ↔
      b.x ≠ 0 ∧ b.y ≠ 0 ∧ b.z ≠ 0 ∧ d = .v ⟨a.x / b.x, a.y / b.y, a.z / b.z⟩ := by
  constructor
  · intro h
    simp only [evalBin, Val.zipM] at h
    obtain ⟨r, hr, h⟩ := bind_ok h
    injection h with h
    obtain ⟨h0, h1, h2⟩ := V3.mapM_ok hr
    simp only [V3.zip, id] at h0 h1 h2
    obtain ⟨n0, e0⟩ := divRat_ok h0
    obtain ⟨n1, e1⟩ := divRat_ok h1
    obtain ⟨n2, e2⟩ := divRat_ok h2
    refine ⟨n0, n1, n2, ?_⟩
    rw [← h, ← e0, ← e1, ← e2]
  · rintro ⟨hx, hy, hz, rfl⟩
    simp [evalBin, Val.zipM, V3.zip, V3.mapM, divRat, hx, hy, hz, bind, Except.bind, pure, Except.pure]

theorem div_tt_iff (env : Env) {a b : M9 Rat} {d : Val Rat} :
    evalBin env .div (.t a) (.t b) = .ok d ↔
      (b.xx ≠ 0 ∧ b.xy ≠ 0 ∧ b.xz ≠ 0 ∧ b.yx ≠ 0 ∧ b.yy ≠ 0 ∧ b.yz ≠ 0 ∧ b.zx ≠ 0 ∧ b.zy ≠ 0 ∧ b.zz ≠ 0) ∧
      d = .t ⟨a.xx / b.xx, a.xy / b.xy, a.xz / b.xz, a.yx / b.yx,
        a.yy / b.yy, a.yz / b.yz, a.zx / b.zx, a.zy / b.zy, a.zz / b.zz⟩ := by
  constructor
  · intro h
    simp only [evalBin, Val.zipM] at h
    obtain ⟨r, hr, h⟩ := bind_ok h
    injection h with h
    obtain ⟨h0, h1, h2, h3, h4, h5, h6, h7, h8⟩ := M9.mapM_ok hr
    simp only [M9.zip, id] at h0 h1 h2 h3 h4 h5 h6 h7 h8
    obtain ⟨n0, e0⟩ := divRat_ok h0
    obtain ⟨n1, e1⟩ := divRat_ok h1
    obtain ⟨n2, e2⟩ := divRat_ok h2
    obtain ⟨n3, e3⟩ := divRat_ok h3
    obtain ⟨n4, e4⟩ := divRat_ok h4
    obtain ⟨n5, e5⟩ := divRat_ok h5
    obtain ⟨n6, e6⟩ := divRat_ok h6
    obtain ⟨n7, e7⟩ := divRat_ok h7
    obtain ⟨n8, e8⟩ := divRat_ok h8
    refine ⟨⟨n0, n1, n2, n3, n4, n5, n6, n7, n8⟩, ?_⟩
    rw [← h, ← e0, ← e1, ← e2, ← e3, ← e4, ← e5, ← e6, ← e7, ← e8]
  · rintro ⟨⟨h0, h1, h2, h3, h4, h5, h6, h7, h8⟩, rfl⟩
    simp [evalBin, Val.zipM, M9.zip, M9.mapM, divRat, h0, h1, h2, h3, h4, h5, h6, h7, h8, bind,
      Except.bind, pure, Except.pure]

theorem mul_div_assoc_val (env : Env) {x c y d w : Val Rat}
    (h1 : evalBin env .div c y = .ok d) (h2 : evalBin env .mul x d = .ok w) :
    ∃ u, evalBin env .mul x c = .ok u ∧ evalBin env .div u y = .ok w := by
  cases y with
  | s b =>
    obtain ⟨hb, rfl⟩ := (div_s_iff env).mp h1
    cases x <;> cases c <;>
      simp only [evalBin, Val.map, V3.map, M9.map, Val.zipM, V3.zip, M9.zip, V3.mapM, M9.mapM, id, bind,
        Except.bind, pure, Except.pure] at h2 <;>
      cases h2 <;>
      (refine ⟨_, rfl, (div_s_iff env).mpr ⟨hb, ?_⟩⟩
       simp only [Val.map, V3.map, M9.map, mul_div_assoc, div_mul_comm])
  | v b =>
    cases c with
    | s a => simp [evalBin, Val.zipM] at h1
    | t a => simp [evalBin, Val.zipM] at h1
    | v a =>
      obtain ⟨n0, n1, n2, rfl⟩ := (div_vv_iff env).mp h1
      cases x <;>
        simp only [evalBin, Val.map, V3.map, Val.zipM, V3.zip, V3.mapM, id, bind, Except.bind, pure,
          Except.pure] at h2 <;>
        cases h2 <;>
        (refine ⟨_, rfl, (div_vv_iff env).mpr ⟨n0, n1, n2, ?_⟩⟩
         simp only [V3.map, mul_div_assoc])
  | t b =>
    cases c with
    | s a => simp [evalBin, Val.zipM] at h1
    | v a => simp [evalBin, Val.zipM] at h1
    | t a =>
      obtain ⟨hn, rfl⟩ := (div_tt_iff env).mp h1
      cases x <;>
        simp only [evalBin, Val.map, M9.map, Val.zipM, M9.zip, M9.mapM, id, bind, Except.bind, pure,
          Except.pure] at h2 <;>
        cases h2 <;>
        (refine ⟨_, rfl, (div_tt_iff env).mpr ⟨hn, ?_⟩⟩
         simp only [M9.map, mul_div_assoc])

/-! ## Trees: the parser's reading refines the usual reading -/

/-- whenever `ts` evaluates, `tu` evaluates to the same value -/
def LeT (env : Env) (ts tu : Tree) : Prop := ∀ v, denote env ts = .ok v → denote env tu = .ok v

/-- the same relation on the results of resolving the atoms (an unresolvable atom is the same error on
both sides) -/
def Refines (env : Env) : Except Err Tree → Except Err Tree → Prop
  | .ok ts, .ok tu => LeT env ts tu
  | .error e, .error e' => e = e'
  | _, _ => False

theorem LeT.refl (env : Env) (t : Tree) : LeT env t t := fun _ h => h

theorem LeT.trans {env : Env} {a b c : Tree} (h1 : LeT env a b) (h2 : LeT env b c) : LeT env a c :=
  fun v h => h2 v (h1 v h)

theorem Refines.refl (env : Env) (r : Except Err Tree) : Refines env r r := by
  cases r with
  | ok t => exact LeT.refl env t
  | error e => rfl

theorem Refines.trans {env : Env} {a b c : Except Err Tree} (h1 : Refines env a b)
    (h2 : Refines env b c) : Refines env a c := by
  cases a <;> cases b <;> cases c <;> simp only [Refines] at h1 h2 ⊢ <;>
    first | exact h1.elim | exact h2.elim | exact h1.trans h2 | exact LeT.trans h1 h2

theorem denote_bin (env : Env) (op : BinOp) (a b : Tree) :
    denote env (.bin op a b) = (do
      let va ← denote env a
      let vb ← denote env b
      evalBin env op va vb) := rfl

theorem LeT.bin {env : Env} (op : BinOp) {a a' b b' : Tree} (ha : LeT env a a') (hb : LeT env b b') :
    LeT env (.bin op a b) (.bin op a' b') := by
  intro v h
  rw [denote_bin] at h ⊢
  obtain ⟨va, hva, h⟩ := bind_ok h
  obtain ⟨vb, hvb, h⟩ := bind_ok h
  rw [ha va hva, hb vb hvb]
  exact h

theorem LeT.map {env : Env} {k : Tree → Tree} {F : Val Rat → Except Err (Val Rat)}
    (hk : ∀ a, denote env (k a) = denote env a >>= F) {a a' : Tree} (ha : LeT env a a') :
    LeT env (k a) (k a') := by
  intro v h
  rw [hk] at h ⊢
  obtain ⟨va, hva, h⟩ := bind_ok h
  rw [ha va hva]
  exact h

theorem LeT.neg {env : Env} {a a' : Tree} (ha : LeT env a a') : LeT env (.neg a) (.neg a') :=
  LeT.map (fun _ => rfl) ha

theorem LeT.fn {env : Env} (f : Fn) {a a' : Tree} (ha : LeT env a a') : LeT env (.fn f a) (.fn f a') :=
  LeT.map (fun _ => rfl) ha

/-- `x o (c i y)` refines `(x o c) i y` when the values do: `x + (c - y)` and `(x + c) - y`,
`x * (c / y)` and `(x * c) / y` -/
theorem LeT.reassoc {env : Env} {o i : BinOp}
    (hval : ∀ {x c y d w : Val Rat}, evalBin env i c y = .ok d → evalBin env o x d = .ok w →
      ∃ u, evalBin env o x c = .ok u ∧ evalBin env i u y = .ok w) (x c y : Tree) :
    LeT env (.bin o x (.bin i c y)) (.bin i (.bin o x c) y) := by
  intro v h
  rw [denote_bin] at h
  obtain ⟨vx, hx, h⟩ := bind_ok h
  obtain ⟨vd, hd, h⟩ := bind_ok h
  rw [denote_bin] at hd
  obtain ⟨vc, hc, hd⟩ := bind_ok hd
  obtain ⟨vy, hy, hd⟩ := bind_ok hd
  obtain ⟨u, hu1, hu2⟩ := hval hd h
  rw [denote_bin, denote_bin, hx, hc, hy]
  simp only [bind, Except.bind, hu1]
  exact hu2

namespace SE

theorem toTree_bin (known : String → Bool) (op : BinOp) (a b : SE) :
    (bin op a b).toTree known = (do
      let tb ← b.toTree known
      let ta ← a.toTree known
      pure (.bin op ta tb)) := rfl

theorem refines_map {env : Env} {k k' : Tree → Tree}
    (hk : ∀ {a a'}, LeT env a a' → LeT env (k a) (k' a')) {r r' : Except Err Tree}
    (h : Refines env r r') :
    Refines env (do let a ← r; pure (k a)) (do let a ← r'; pure (k' a)) := by
  cases r <;> cases r' <;> simp only [Refines] at h
  · subst h; rfl
  · exact hk h

theorem refines_bin {env : Env} {known : String → Bool} (op : BinOp) {a a' b b' : SE}
    (ha : Refines env (a.toTree known) (a'.toTree known))
    (hb : Refines env (b.toTree known) (b'.toTree known)) :
    Refines env ((bin op a b).toTree known) ((bin op a' b').toTree known) := by
  rw [toTree_bin, toTree_bin]
  cases hb1 : b.toTree known <;> cases hb2 : b'.toTree known <;> rw [hb1, hb2] at hb <;>
    simp only [Refines] at hb
  · subst hb; rfl
  · exact refines_map (fun h => LeT.bin op h hb) ha

/-- the parser's grouping `a1 o (a2 i b)` against the usual `(a1 o a2) i b` -/
theorem refines_reassoc {env : Env} {o i : BinOp}
    (h : ∀ x c y, LeT env (.bin o x (.bin i c y)) (.bin i (.bin o x c) y)) (known : String → Bool)
    (a1 a2 b : SE) :
    Refines env ((bin o a1 (bin i a2 b)).toTree known) ((bin i (bin o a1 a2) b).toTree known) := by
  simp only [toTree_bin]
  cases b.toTree known with
  | error e => rfl
  | ok tb =>
    cases a2.toTree known with
    | error e => rfl
    | ok t2 =>
      cases a1.toTree known with
      | error e => rfl
      | ok t1 => exact h t1 t2 tb

theorem refines_subR (env : Env) (known : String → Bool) (a b : SE) :
    Refines env ((subR a b).toTree known) ((bin .sub a b).toTree known) := by
  unfold subR
  split
  · exact refines_reassoc (LeT.reassoc (add_sub_assoc_val env)) known _ _ _
  · exact Refines.refl env _

theorem refines_divR (env : Env) (known : String → Bool) (a b : SE) :
    Refines env ((divR a b).toTree known) ((bin .div a b).toTree known) := by
  unfold divR
  split
  · exact refines_reassoc (LeT.reassoc (mul_div_assoc_val env)) known _ _ _
  · exact Refines.refl env _

theorem refines_resym (env : Env) (known : String → Bool) : ∀ (u : SE),
    Refines env (u.resym.toTree known) (u.toTree known) := by
  intro u
  induction u with
  | atom s => exact Refines.refl env _
  | fn f e ih => exact refines_map (LeT.fn f) ih
  | paren e ih => exact ih
  | neg e ih => exact refines_map LeT.neg ih
  | bin op a b iha ihb =>
    cases op
    case sub => exact (refines_subR env known _ _).trans (refines_bin .sub iha ihb)
    case div => exact (refines_divR env known _ _).trans (refines_bin .div iha ihb)
    all_goals exact refines_bin _ iha ihb

end SE

end Sympler.Expr
