import Sympler.Restart

/-!
Helper lemmas for property C18 (`Props/C18.lean`): the number round trip `%g` → `strtod` (both sides meet in the
decimal literal `lit`), the token scanner `readNext`, `fromStringByIndex ∘ toStringByIndex`, and the line/column
structure.  Core only.
-/

namespace Sympler.Restart
open Sympler.Gen.Restart

/-! ## lists and characters -/

theorem takeWhile_append_stop {p : Char → Bool} {l r : List Char} (hl : ∀ c ∈ l, p c = true)
    (hr : ∀ c ∈ r.head?, p c = false) : (l ++ r).takeWhile p = l := by
  rw [List.takeWhile_append_of_pos hl]
  cases r with
  | nil => simp
  | cons c t => simp [hr c (by simp)]

theorem dropWhile_append_stop {p : Char → Bool} {l r : List Char} (hl : ∀ c ∈ l, p c = true)
    (hr : ∀ c ∈ r.head?, p c = false) : (l ++ r).dropWhile p = r := by
  rw [List.dropWhile_append_of_pos hl]
  cases r with
  | nil => simp
  | cons c t => simp [hr c (by simp)]

theorem head_cons {p : Char → Prop} {a : Char} {t : List Char} (h : p a) : ∀ c ∈ (a :: t).head?, p c := by
  rintro _ ⟨⟩; exact h

theorem digit_ne {c k : Char} (h : c.isDigit = true) (hk : k.isDigit = false) : c ≠ k := by
  intro e; subst e; simp [h] at hk

theorem isDigit_not_space {c : Char} (h : c.isDigit = true) : isCSpace c = false := by
  cases hs : isCSpace c with
  | false => rfl
  | true =>
    have : c = ' ' ∨ c = '\t' ∨ c = '\n' ∨ c = '\x0b' ∨ c = '\x0c' ∨ c = '\r' := by
      simpa [isCSpace, or_assoc] using hs
    rcases this with rfl | rfl | rfl | rfl | rfl | rfl <;> exact absurd h (by decide)

/-! ## digits -/

theorem digits_isDigit {n : Nat} {c : Char} (h : c ∈ digits n) : c.isDigit = true :=
  Nat.isDigit_of_mem_toDigits (by decide) (by decide) h

theorem digits_ne_nil (n : Nat) : digits n ≠ [] := Nat.toDigits_ne_nil

theorem ofDigitChars_digits (n : Nat) : Nat.ofDigitChars 10 (digits n) 0 = n :=
  Nat.ofDigitChars_ten_toDigits

instance (P : Nat) (d : Dec) : Decidable (d.wf P) :=
  decidable_of_iff ((d.mant = 0 → d.exp = 0) ∧ (d.mant ≠ 0 → d.mant % 10 ≠ 0) ∧
      (d.mant ≠ 0 → (digits d.mant).length ≤ P) ∧ (d.mant ≠ 0 → -300 ≤ d.expo ∧ d.expo ≤ 300))
    ⟨fun ⟨a, b, c, e⟩ => ⟨a, b, c, e⟩, fun ⟨a, b, c, e⟩ => ⟨a, b, c, e⟩⟩

instance (P : Nat) (p : P3) : Decidable (p.wf P) := by unfold P3.wf; infer_instance

/-! ## normalisation -/

theorem stripZeros_pow {m : Nat} (hm : m % 10 ≠ 0) :
    ∀ (k fuel : Nat) (e : Int), k ≤ fuel → stripZeros fuel (m * 10 ^ k) e = (m, e + k) := by
  intro k
  induction k with
  | zero =>
    intro fuel e _
    cases fuel <;> simp [stripZeros, hm]
  | succ k ih =>
    intro fuel e hk
    cases fuel with
    | zero => omega
    | succ f =>
      have hpos : 0 < m * 10 ^ k := Nat.mul_pos (by omega) (Nat.pow_pos (by decide))
      rw [Nat.pow_succ, ← Nat.mul_assoc, stripZeros, if_pos ⟨by omega, by omega⟩,
        Nat.mul_div_cancel _ (by decide : 0 < 10), ih f (e + 1) (by omega)]
      simp; omega

theorem normalize_pow {m : Nat} (hm : m % 10 ≠ 0) (k : Nat) (e : Int) :
    normalize (m * 10 ^ k) e = (m, e + k) := by
  have hpos : 0 < 10 ^ k := Nat.pow_pos (by decide)
  have hge : 10 ^ k ≤ m * 10 ^ k := Nat.le_mul_of_pos_left _ (by omega)
  have hk : k < 10 ^ k := Nat.lt_pow_self (by decide)
  unfold normalize
  rw [if_neg (by omega)]
  exact stripZeros_pow hm k _ e (by omega)

theorem normalize_self {m : Nat} (hm : m % 10 ≠ 0) (e : Int) : normalize m e = (m, e) := by
  simpa using normalize_pow hm 0 e

theorem normalize_zero (e : Int) : normalize 0 e = (0, 0) := by simp [normalize]

/-! ## decimal literals and the scanners -/

theorem takeSign_digit {c : Char} (t : List Char) (h : c.isDigit = true) :
    takeSign (c :: t) = (false, c :: t) := by
  simp [takeSign, digit_ne h (k := '-') (by decide), digit_ne h (k := '+') (by decide)]

theorem takeSign_front {ws ds : List Char} (neg : Bool) (t : List Char) (hws : ∀ a ∈ ws, isCSpace a = true)
    (hne : ds ≠ []) (hds : ∀ a ∈ ds, a.isDigit = true) :
    takeSign ((ws ++ ((if neg then ['-'] else []) ++ (ds ++ t))).dropWhile isCSpace) = (neg, ds ++ t) := by
  obtain ⟨c, s, rfl⟩ := List.exists_cons_of_ne_nil hne
  have hc := hds c (by simp)
  cases neg with
  | true =>
    show takeSign ((ws ++ '-' :: (c :: s ++ t)).dropWhile isCSpace) = _
    rw [dropWhile_append_stop hws (head_cons (by decide))]; rfl
  | false =>
    show takeSign ((ws ++ c :: (s ++ t)).dropWhile isCSpace) = _
    rw [dropWhile_append_stop hws (head_cons (isDigit_not_space hc))]; exact takeSign_digit _ hc

def NumEnd (r : List Char) : Prop :=
  ∀ c ∈ r.head?, c.isDigit = false ∧ c ≠ '.' ∧ c ≠ 'e' ∧ c ≠ 'E'

theorem numEnd_nil : NumEnd [] := by intro c hc; simp at hc

def fracPart (fp : List Char) : List Char := if fp = [] then [] else '.' :: fp

def expPart : Option Int → List Char
  | none => []
  | some x => 'e' :: expField x

/-- the text of a decimal literal as `%g` prints it: integer digits, fraction, exponent. -/
def lit (ip fp : List Char) (ex : Option Int) : List Char := ip ++ (fracPart fp ++ expPart ex)

theorem ofDigitChars_zeros_append (z : Nat) (ds : List Char) :
    Nat.ofDigitChars 10 (List.replicate z '0' ++ ds) 0 = Nat.ofDigitChars 10 ds 0 := by
  rw [Nat.ofDigitChars_append, Nat.ofDigitChars_replicate_zero]; simp

theorem ofDigitChars_zero_cons (ds : List Char) :
    Nat.ofDigitChars 10 ('0' :: ds) 0 = Nat.ofDigitChars 10 ds 0 := ofDigitChars_zeros_append 1 ds

theorem ofDigitChars_append_zeros (z : Nat) (ds : List Char) :
    Nat.ofDigitChars 10 (ds ++ List.replicate z '0') 0 = Nat.ofDigitChars 10 ds 0 * 10 ^ z := by
  rw [Nat.ofDigitChars_append, Nat.ofDigitChars_replicate_zero, Nat.mul_comm]

theorem expField_scan (x : Int) :
    ∃ ds : List Char, ds ≠ [] ∧ (∀ c ∈ ds, c.isDigit = true) ∧ Nat.ofDigitChars 10 ds 0 = x.natAbs ∧
      expField x = (if x < 0 then '-' else '+') :: ds := by
  by_cases h : x.natAbs < 10
  · refine ⟨'0' :: digits x.natAbs, by simp, ?_, ?_, by simp [expField, h]⟩
    · intro c hc
      rcases List.mem_cons.mp hc with rfl | hc
      · decide
      · exact digits_isDigit hc
    · rw [ofDigitChars_zero_cons, ofDigitChars_digits]
  · exact ⟨digits x.natAbs, digits_ne_nil _, fun c hc => digits_isDigit hc, ofDigitChars_digits _, by simp [expField, h]⟩

theorem scanExp_expPart (ex : Option Int) {r : List Char} (hr : NumEnd r) :
    scanExp (expPart ex ++ r) = (ex.getD 0, r) ∧ ∀ a ∈ (expPart ex ++ r).head?, a.isDigit = false ∧ a ≠ '.' := by
  cases ex with
  | none =>
    refine ⟨?_, fun a ha => ⟨(hr a ha).1, (hr a ha).2.1⟩⟩
    cases r with
    | nil => rfl
    | cons c t => simp [expPart, scanExp, (hr c (by simp)).2.2]
  | some x =>
    refine ⟨?_, by simp [expPart]⟩
    obtain ⟨ds, hne, hd, hv, he⟩ := expField_scan x
    have hs : takeSign ((if x < 0 then '-' else '+') :: (ds ++ r)) = (decide (x < 0), ds ++ r) := by
      by_cases hx : x < 0 <;> simp [hx, takeSign]
    simp only [expPart, he, List.cons_append, scanExp, true_or, if_true, hs,
      takeWhile_append_stop hd (fun c hc => (hr c hc).1), dropWhile_append_stop hd (fun c hc => (hr c hc).1),
      if_neg hne, hv, Option.getD_some]
    by_cases hx : x < 0 <;> simp [hx] <;> omega

theorem scanFrac_fracPart {fp r : List Char} (hfp : ∀ a ∈ fp, a.isDigit = true)
    (hr : ∀ a ∈ r.head?, a.isDigit = false ∧ a ≠ '.') :
    scanFrac (fracPart fp ++ r) = (fp, r) ∧ ∀ a ∈ (fracPart fp ++ r).head?, a.isDigit = false := by
  have h : ∀ a ∈ r.head?, a.isDigit = false := fun a ha => (hr a ha).1
  cases fp with
  | nil =>
    refine ⟨?_, h⟩
    cases r with
    | nil => rfl
    | cons a s => simp [fracPart, scanFrac, (hr a (by simp)).2]
  | cons d ds =>
    refine ⟨?_, by simp [fracPart]⟩
    show scanFrac ('.' :: ((d :: ds) ++ r)) = _
    simp only [scanFrac, if_true, takeWhile_append_stop hfp h, dropWhile_append_stop hfp h]

theorem scanNum_lit {ws : List Char} (neg : Bool) {ip fp : List Char} (ex : Option Int) {r : List Char}
    (hws : ∀ c ∈ ws, isCSpace c = true) (hne : ip ≠ []) (hd : ∀ c ∈ ip ++ fp, c.isDigit = true) (hr : NumEnd r) :
    scanNum (ws ++ ((if neg then ['-'] else []) ++ (lit ip fp ex ++ r))) =
      (some ⟨neg, (normalize (Nat.ofDigitChars 10 (ip ++ fp) 0) (ex.getD 0 - fp.length)).1,
                  (normalize (Nat.ofDigitChars 10 (ip ++ fp) 0) (ex.getD 0 - fp.length)).2⟩, r) := by
  have hip : ∀ a ∈ ip, a.isDigit = true := fun a ha => hd a (List.mem_append_left _ ha)
  obtain ⟨hx, h2⟩ := scanExp_expPart ex hr
  obtain ⟨hf, h1⟩ := scanFrac_fracPart (fun a ha => hd a (List.mem_append_right _ ha)) h2
  unfold scanNum lit
  rw [List.append_assoc, List.append_assoc, takeSign_front neg _ hws hne hip]
  simp only [takeWhile_append_stop hip h1, dropWhile_append_stop hip h1, hf, hx]
  rw [if_neg (by simp [hne])]

/-! ## `%g` prints a literal -/

theorem isDigit_replicate_zero {z : Nat} {c : Char} (h : c ∈ List.replicate z '0') : c.isDigit = true := by
  rw [(List.mem_replicate.mp h).2]; decide

theorem fracPart_drop (D : List Char) (k : Nat) :
    fracPart (D.drop k) = if k < D.length then '.' :: D.drop k else [] := by
  simp only [fracPart, List.drop_eq_nil_iff]
  by_cases h : k < D.length <;> simp [h] <;> omega

/-- `fmtMag` prints a literal whose digits, shifted by the exponent, are those of `mant`: the layouts of `%g`
    (scientific, integer padded with zeros, digits around the point, `0.000ddd`). -/
theorem fmtMag_lit (P mant : Nat) (exp : Int) :
    ∃ (ip fp : List Char) (ex : Option Int), fmtMag P mant exp = lit ip fp ex ∧ ip ≠ [] ∧
      (∀ c ∈ ip ++ fp, c.isDigit = true) ∧
      (mant % 10 ≠ 0 → normalize (Nat.ofDigitChars 10 (ip ++ fp) 0) (ex.getD 0 - fp.length) = (mant, exp)) := by
  have hD : ∀ c ∈ digits mant, c.isDigit = true := fun c h => digits_isDigit h
  have hne := digits_ne_nil mant
  have hv := ofDigitChars_digits mant
  unfold fmtMag
  generalize digits mant = D at hD hne hv
  have hlen : 0 < D.length := List.length_pos_iff.mpr hne
  simp only
  generalize hX : exp + (D.length : Int) - 1 = X
  have htd : ∀ k, ∀ c ∈ D.take k ++ D.drop k, c.isDigit = true := fun k => by rwa [List.take_append_drop]
  have htk : ∀ k, 0 < k → D.take k ≠ [] := fun k hk h => by
    rcases List.take_eq_nil_iff.mp h with h | h
    · omega
    · exact hne h
  by_cases hs : X < -4 ∨ X ≥ P
  · rw [if_pos hs]
    refine ⟨D.take 1, D.drop 1, some X, by simp only [lit, fracPart_drop, expPart], htk 1 (by omega), htd 1,
      fun hc => ?_⟩
    rw [List.take_append_drop, hv, normalize_self hc]
    simp; omega
  rw [if_neg hs]
  by_cases h0 : X ≥ 0
  · rw [if_pos h0]
    obtain ⟨k, rfl⟩ := Int.eq_ofNat_of_zero_le h0
    rw [Int.toNat_natCast]
    by_cases hk : D.length ≤ k + 1
    · rw [if_pos hk]
      refine ⟨D ++ List.replicate (k + 1 - D.length) '0', [], none, by simp [lit, fracPart, expPart],
        by simp [hne], ?_, fun hc => ?_⟩
      · rw [List.append_nil]
        exact List.forall_mem_append.mpr ⟨hD, fun c => isDigit_replicate_zero⟩
      · rw [List.append_nil, ofDigitChars_append_zeros, hv, normalize_pow hc]
        simp; omega
    · rw [if_neg hk]
      refine ⟨D.take (k + 1), D.drop (k + 1), none, ?_, htk _ (by omega), htd _, fun hc => ?_⟩
      · simp only [lit, fracPart_drop, expPart, if_pos (Nat.lt_of_not_le hk), List.append_nil]
      · rw [List.take_append_drop, hv, normalize_self hc]
        simp; omega
  · rw [if_neg h0]
    refine ⟨['0'], List.replicate ((-X).toNat - 1) '0' ++ D, none, by simp [lit, fracPart, expPart, hne], by simp,
      List.forall_mem_append.mpr ⟨by decide, List.forall_mem_append.mpr ⟨fun c => isDigit_replicate_zero, hD⟩⟩,
      fun hc => ?_⟩
    rw [List.singleton_append, ofDigitChars_zero_cons, ofDigitChars_zeros_append, hv, normalize_self hc]
    simp; omega

theorem fmtG_lit (P : Nat) (d : Dec) :
    ∃ (ip fp : List Char) (ex : Option Int), fmtG P d = (if d.neg then ['-'] else []) ++ lit ip fp ex ∧ ip ≠ [] ∧
      (∀ c ∈ ip ++ fp, c.isDigit = true) ∧
      ((d.mant = 0 → d.exp = 0) → (d.mant ≠ 0 → d.mant % 10 ≠ 0) →
        normalize (Nat.ofDigitChars 10 (ip ++ fp) 0) (ex.getD 0 - fp.length) = (d.mant, d.exp)) := by
  unfold fmtG
  by_cases h0 : d.mant = 0
  · exact ⟨['0'], [], none, by simp [h0, lit, fracPart, expPart], by simp, by decide,
      fun hz _ => by rw [h0, hz h0]; rfl⟩
  · obtain ⟨ip, fp, ex, h1, h2, h3, h4⟩ := fmtMag_lit P d.mant d.exp
    exact ⟨ip, fp, ex, by rw [if_neg h0, h1], h2, h3, fun _ hc => h4 (hc h0)⟩

theorem scanNum_fmtG (P : Nat) {d : Dec} (hz : d.mant = 0 → d.exp = 0) (hc : d.mant ≠ 0 → d.mant % 10 ≠ 0)
    {ws r : List Char} (hws : ∀ c ∈ ws, isCSpace c = true) (hr : NumEnd r) :
    scanNum (ws ++ (fmtG P d ++ r)) = (some d, r) := by
  obtain ⟨ip, fp, ex, h1, h2, h3, h4⟩ := fmtG_lit P d
  rw [h1, List.append_assoc, scanNum_lit d.neg ex hws h2 h3 hr, h4 hz hc]

/-! ## alphabet of the printed numbers -/

/-- characters `%g` / `%i` can print on the modelled domain -/
def numChar (c : Char) : Prop := c.isDigit = true ∨ c = '-' ∨ c = '.' ∨ c = 'e' ∨ c = '+'

instance (c : Char) : Decidable (numChar c) := by unfold numChar; infer_instance

theorem expField_chars {x : Int} {c : Char} (h : c ∈ expField x) : numChar c := by
  obtain ⟨ds, _, hd, _, he⟩ := expField_scan x
  rw [he] at h
  rcases List.mem_cons.mp h with rfl | h
  · by_cases hx : x < 0 <;> simp [hx, numChar]
  · exact Or.inl (hd c h)

theorem lit_chars {ip fp : List Char} {ex : Option Int} (hd : ∀ c ∈ ip ++ fp, c.isDigit = true) {c : Char}
    (h : c ∈ lit ip fp ex) : numChar c := by
  simp only [lit, fracPart, List.mem_append] at h
  rcases h with h | h | h
  · exact Or.inl (hd c (List.mem_append_left _ h))
  · split at h
    · cases h
    · rcases List.mem_cons.mp h with rfl | h
      · simp [numChar]
      · exact Or.inl (hd c (List.mem_append_right _ h))
  · cases ex with
    | none => cases h
    | some x =>
      rcases List.mem_cons.mp h with rfl | h
      · simp [numChar]
      · exact expField_chars h

theorem fmtG_chars {P : Nat} {d : Dec} {c : Char} (h : c ∈ fmtG P d) : numChar c := by
  obtain ⟨ip, fp, ex, h1, _, h3, _⟩ := fmtG_lit P d
  rw [h1] at h
  rcases List.mem_append.mp h with h | h
  · split at h
    · exact Or.inr (Or.inl (List.mem_singleton.mp h))
    · cases h
  · exact lit_chars h3 h

theorem fmtInt_chars {i : Int} {c : Char} (h : c ∈ fmtInt i) : numChar c := by
  unfold fmtInt at h
  split at h
  · rcases List.mem_cons.mp h with h | h
    · exact Or.inr (Or.inl h)
    · exact Or.inl (digits_isDigit h)
  · exact Or.inl (digits_isDigit h)

theorem numChar_accepts {c : Char} (h : numChar c) : readNextAccepts c = true := by
  rcases h with h | h | h | h | h
  · simp [readNextAccepts, Char.isAlphanum, h]
  all_goals (subst h; decide)

theorem numChar_ne {c k : Char} (h : numChar c) (hk : ¬ numChar k) : c ≠ k := fun e => hk (e ▸ h)

/-! ## `fromStringByIndex ∘ toStringByIndex` -/

theorem atoi_fmtInt (i : Int) : atoi (fmtInt i) = i := by
  have hdig : ∀ a ∈ digits i.natAbs, a.isDigit = true := fun a h => digits_isDigit h
  have hf : fmtInt i = [] ++ ((if decide (i < 0) then ['-'] else []) ++ (digits i.natAbs ++ [])) := by
    by_cases h : i < 0
    · simp [fmtInt, h]
    · simp [fmtInt, h, show i.toNat = i.natAbs by omega]
  simp only [atoi, hf, takeSign_front (ws := []) _ _ (by simp) (digits_ne_nil _) hdig, takeWhile_append_stop (r := []) hdig (by simp),
    ofDigitChars_digits]
  by_cases h : i < 0 <;> simp [h] <;> omega

theorem atof_fmtG (P : Nat) {d : Dec} (h : d.wf P) {ws : List Char} (hws : ∀ c ∈ ws, isCSpace c = true) :
    atof (ws ++ fmtG P d) = d := by
  have := scanNum_fmtG P h.zero h.canon hws numEnd_nil
  rw [List.append_nil] at this
  simp [atof, this]

theorem cut_found {c : Char} {whole b a : List Char} (h : ∀ x ∈ b, x ≠ c) :
    cut c whole (b ++ c :: a) = (b, a) := by
  have hp : ∀ x ∈ b, (x != c) = true := fun x hx => by simp [h x hx]
  unfold cut
  rw [dropWhile_append_stop hp (by simp), takeWhile_append_stop hp (by simp)]

theorem cut_head (c : Char) (whole a : List Char) : cut c whole (c :: a) = ([], a) :=
  cut_found (b := []) (by simp)

theorem fmtG_ne {P : Nat} {d : Dec} {k : Char} (hk : ¬ numChar k) : ∀ x ∈ fmtG P d, x ≠ k :=
  fun _ hx => numChar_ne (fmtG_chars hx) hk

theorem fmtPoint_append (P : Nat) (p : P3) (X : List Char) :
    fmtPoint P p ++ X = '(' :: (fmtG P p.x ++ ',' :: ' ' :: (fmtG P p.y ++ ',' :: ' ' :: (fmtG P p.z ++ ')' :: X))) := by
  simp [fmtPoint]

theorem pointFrom_fmtPoint {P : Nat} {p : P3} (h : p.wf P) (whole pre X : List Char) (hpre : ∀ x ∈ pre, x ≠ '(') :
    pointFrom whole (cut '(' whole (pre ++ (fmtPoint P p ++ X))).2 = (p, X) := by
  rw [fmtPoint_append, cut_found hpre]
  unfold pointFrom
  rw [cut_found (fmtG_ne (by decide))]
  simp only
  rw [← List.cons_append, cut_found (List.forall_mem_cons.mpr ⟨by decide, fmtG_ne (by decide)⟩)]
  simp only
  rw [← List.cons_append, cut_found (List.forall_mem_cons.mpr ⟨by decide, fmtG_ne (by decide)⟩)]
  simp only
  have a1 : atof (fmtG P p.x) = p.x := atof_fmtG P h.1 (ws := []) (by simp)
  have a2 : atof (' ' :: fmtG P p.y) = p.y := atof_fmtG P h.2.1 (ws := [' ']) (by decide)
  have a3 : atof (' ' :: fmtG P p.z) = p.z := atof_fmtG P h.2.2 (ws := [' ']) (by decide)
  rw [a1, a2, a3]

theorem fromStr_toStr {ty : Ty} {v : Val} (h : Val.wf ty v) : fromStr ty (toStr v) = v := by
  cases ty <;> cases v <;> simp only [Val.wf] at h
  · simp [fromStr, toStr, atoi_fmtInt]
  · simpa [fromStr, toStr] using atof_fmtG 6 h (ws := []) (by simp)
  · rename_i p
    have := pointFrom_fmtPoint h (fmtPoint 6 p) [] [] (by simp)
    simp only [List.nil_append, List.append_nil] at this
    simp [fromStr, toStr, this]
  · rename_i a b c
    obtain ⟨ha, hb, hc⟩ := h
    simp only [fromStr, toStr]
    generalize hv : (['t', 'e', 'n', 's', 'o', 'r', '('] ++
      (fmtPoint 6 a ++ ',' :: ' ' :: (fmtPoint 6 b ++ ',' :: ' ' :: (fmtPoint 6 c ++ [')'])))) = value
    -- the text is consumed from the left; `value` itself is only what `cut` returns to when it finds nothing
    have h0 : (cut '(' value value).2 = fmtPoint 6 a ++ ',' :: ' ' :: (fmtPoint 6 b ++ ',' :: ' ' :: (fmtPoint 6 c ++ [')'])) := by
      conv => lhs; arg 1; arg 3; rw [← hv]
      exact congrArg Prod.snd (cut_found (b := ['t', 'e', 'n', 's', 'o', 'r']) (by decide))
    rw [h0, ← List.nil_append (fmtPoint 6 a ++ _), pointFrom_fmtPoint ha value [] _ (by simp)]
    simp only [cut_head]
    rw [← List.singleton_append, pointFrom_fmtPoint hb value [' '] _ (by decide)]
    simp only [cut_head]
    rw [← List.singleton_append, pointFrom_fmtPoint hc value [' '] _ (by decide)]

/-! ## `readNext` -/

def stepLevel (l : Int) (c : Char) : Int := if c = '(' then l + 1 else if c = ')' then l - 1 else l

/-- `some l'`: the loop of `readNext`, started at level `l`, accumulates all of the token and ends at level `l'` -/
def scanTok (acc : Char → Bool) : Int → List Char → Option Int
  | l, [] => some l
  | l, c :: cs => if l > 0 ∨ acc c = true then scanTok acc (stepLevel l c) cs else none

theorem scanTok_append (acc : Char → Bool) (a b : List Char) (l : Int) :
    scanTok acc l (a ++ b) = (scanTok acc l a).bind (fun l' => scanTok acc l' b) := by
  induction a generalizing l with
  | nil => simp [scanTok]
  | cons c cs ih =>
    simp only [List.cons_append, scanTok]
    split
    · exact ih _
    · simp

theorem readNextLoop_tok (acc : Char → Bool) (tok rest : List Char) (l l' : Int)
    (h : scanTok acc l tok = some l') :
    readNextLoop acc l (tok ++ rest) = (readNextLoop acc l' rest).map (fun tr => (tok ++ tr.1, tr.2)) := by
  induction tok generalizing l with
  | nil =>
    cases h
    simp
  | cons c cs ih =>
    simp only [scanTok] at h
    split at h
    · rename_i hc
      simp only [List.cons_append, readNextLoop, if_pos hc]
      have := ih _ h
      unfold stepLevel at this
      rw [this]
      simp [Option.map_map, Function.comp_def]
    · simp at h

theorem scanTok_keep (acc : Char → Bool) (l : Int) (tok : List Char)
    (h : ∀ c ∈ tok, (l > 0 ∨ acc c = true) ∧ c ≠ '(' ∧ c ≠ ')') : scanTok acc l tok = some l := by
  induction tok with
  | nil => rfl
  | cons c cs ih =>
    have hc := h c (by simp)
    simp only [scanTok, hc.1, if_true, stepLevel, if_neg hc.2.1, if_neg hc.2.2]
    exact ih (fun x hx => h x (by simp [hx]))

theorem numChar_noParen {c : Char} (h : numChar c) : c ≠ '(' ∧ c ≠ ')' :=
  ⟨numChar_ne h (by decide), numChar_ne h (by decide)⟩

theorem scanTok_fmtPoint (acc : Char → Bool) (hacc : acc '(' = true) (P : Nat) (p : P3) (l : Int) (hl : l ≥ 0) :
    scanTok acc l (fmtPoint P p) = some l := by
  obtain ⟨inner, e, hin⟩ : ∃ inner, fmtPoint P p = '(' :: (inner ++ [')']) ∧ ∀ c ∈ inner, c ≠ '(' ∧ c ≠ ')' := by
    refine ⟨fmtG P p.x ++ ',' :: ' ' :: (fmtG P p.y ++ ',' :: ' ' :: fmtG P p.z), by simp [fmtPoint], fun c hc => ?_⟩
    simp only [List.mem_append, List.mem_cons] at hc
    rcases hc with hc | rfl | rfl | hc | rfl | rfl | hc
    any_goals exact numChar_noParen (fmtG_chars hc)
    all_goals decide
  have hl' : l + 1 > 0 := by omega
  rw [e]
  simp only [scanTok, hacc, or_true, if_true, stepLevel]
  rw [scanTok_append, scanTok_keep acc _ _ (fun c hc => ⟨Or.inl hl', hin c hc⟩)]
  simp [scanTok, stepLevel, hl']

theorem scanTok_toStr (v : Val) : scanTok readNextAccepts 0 (toStr v) = some 0 := by
  have hacc : readNextAccepts '(' = true := by decide
  have hnum : ∀ l : List Char, (∀ c ∈ l, numChar c) → scanTok readNextAccepts 0 l = some 0 := fun l h =>
    scanTok_keep _ 0 _ (fun c hc => ⟨Or.inr (numChar_accepts (h c hc)), numChar_noParen (h c hc)⟩)
  cases v with
  | int i => exact hnum _ (fun c hc => fmtInt_chars hc)
  | double d => exact hnum _ (fun c hc => fmtG_chars hc)
  | point p => exact scanTok_fmtPoint _ hacc 6 p 0 (by omega)
  | tensor a b c =>
    have hp := fun p => scanTok_fmtPoint _ hacc 6 p 1 (by omega)
    simp [toStr, scanTok, stepLevel, scanTok_append, hp, readNextAccepts, Char.isAlphanum]

theorem readNextWith_unsplit (acc : Char → Bool) (tok rest : List Char) (sep : Char) (n : Nat)
    (h : scanTok acc 0 tok = some 0) (hsep : acc sep = false) (hhd : ∀ c ∈ tok.head?, c ≠ ' ')
    (hne : tok ≠ []) :
    readNextWith acc (List.replicate n ' ' ++ (tok ++ sep :: rest)) = some (tok, rest) := by
  unfold readNextWith
  rw [dropWhile_append_stop (by intro c hc; simp [(List.mem_replicate.mp hc).2]) (by
      cases tok with
      | nil => exact absurd rfl hne
      | cons c t => simpa using hhd c (by simp)),
    readNextLoop_tok acc tok (sep :: rest) 0 0 h]
  simp [readNextLoop, hsep]

/-! ## words, positions and velocities -/

theorem head_of_all {p : Char → Prop} {w r : List Char} (hne : w ≠ []) (hw : ∀ c ∈ w, p c) :
    ∀ c ∈ (w ++ r).head?, p c := by
  cases w with
  | nil => exact absurd rfl hne
  | cons a t => intro c hc; exact hw c (by simp_all)

theorem readWord_word {ws w r : List Char} (hws : ∀ c ∈ ws, isCSpace c = true) (hne : w ≠ [])
    (hw : ∀ c ∈ w, isCSpace c = false) (hr : ∀ c ∈ r.head?, isCSpace c = true) :
    readWord (ws ++ (w ++ r)) = (w, r) := by
  have hp : ∀ c ∈ w, (!isCSpace c) = true := fun c hc => by simp [hw c hc]
  unfold readWord
  rw [dropWhile_append_stop hws (head_of_all hne hw)]
  simp only [takeWhile_append_stop hp (by simpa using hr), dropWhile_append_stop hp (by simpa using hr)]

theorem numEnd_of_space {c : Char} {t : List Char} (h : c = ' ' ∨ c = '\n') : NumEnd (c :: t) := by
  intro a ha
  simp at ha
  subst ha
  rcases h with h | h <;> subst h <;> decide

theorem readDouble_fmtG (P : Nat) {d : Dec} (h : d.wf P) {r : List Char} (hr : NumEnd r) :
    readDouble (' ' :: (fmtG P d ++ r)) = some (d, r) := by
  have := scanNum_fmtG P h.zero h.canon (ws := [' ']) (by decide) hr
  simp only [List.singleton_append] at this
  simp [readDouble, this]

theorem fmtP3s_append (P : Nat) (p : P3) (R : List Char) :
    fmtP3s P p ++ R = fmtG P p.x ++ ' ' :: (fmtG P p.y ++ ' ' :: (fmtG P p.z ++ R)) := by
  simp [fmtP3s]

theorem read3_fmt (P : Nat) {p : P3} (h : p.wf P) {R : List Char} (hR : NumEnd R) :
    read3 (' ' :: (fmtP3s P p ++ R)) = some (p, R) := by
  simp only [fmtP3s_append, read3, readDouble_fmtG P h.1 (numEnd_of_space (Or.inl rfl)),
    readDouble_fmtG P h.2.1 (numEnd_of_space (Or.inl rfl)), readDouble_fmtG P h.2.2 hR]

theorem readParticle_line (frozen : Bool) {r v : P3} (hr : r.wf 8) (hv : v.wf 8) {R : List Char} (hR : NumEnd R) :
    readParticle (' ' :: ((if frozen then wFrozen else wFree) ++ ' ' :: (fmtP3s 8 r ++ ' ' :: (fmtP3s 8 v ++ R))))
      = some (frozen, r, v, R) := by
  have hwd : (if frozen then wFrozen else wFree) ≠ [] ∧ ∀ c ∈ (if frozen then wFrozen else wFree), isCSpace c = false := by
    cases frozen <;> decide
  rw [← List.singleton_append, readParticle, readWord_word (by decide) hwd.1 hwd.2 (head_cons (by decide))]
  simp only [read3_fmt 8 hr (numEnd_of_space (Or.inl rfl)), read3_fmt 8 hv hR]
  cases frozen <;> simp [wFree, wFrozen]

/-! ## the attribute columns of a particle line -/

theorem fmtG_ne_nil (P : Nat) (d : Dec) : fmtG P d ≠ [] := by
  obtain ⟨ip, fp, ex, h1, h2, _⟩ := fmtG_lit P d
  simp [h1, lit, h2]

theorem fmtInt_ne_nil (i : Int) : fmtInt i ≠ [] := by
  unfold fmtInt
  split
  · simp
  · exact digits_ne_nil _

theorem toStr_head (v : Val) : toStr v ≠ [] ∧ ∀ c ∈ (toStr v).head?, c ≠ ' ' := by
  have hnum : ∀ l : List Char, l ≠ [] → (∀ c ∈ l, numChar c) → l ≠ [] ∧ ∀ c ∈ l.head?, c ≠ ' ' := fun l hl hc =>
    ⟨hl, fun c hm => numChar_ne (hc c (List.mem_of_mem_head? hm)) (by decide)⟩
  cases v with
  | int i => exact hnum _ (fmtInt_ne_nil i) (fun c hc => fmtInt_chars hc)
  | double d => exact hnum _ (fmtG_ne_nil 6 d) (fun c hc => fmtG_chars hc)
  | point p => simp [toStr, fmtPoint]
  | tensor a b c => simp [toStr]

theorem readNext_toStr (v : Val) (n : Nat) {sep : Char} (hsep : sep = ' ' ∨ sep = '\n') (rest : List Char) :
    readNext (List.replicate n ' ' ++ (toStr v ++ sep :: rest)) = some (toStr v, rest) :=
  readNextWith_unsplit _ _ _ _ n (scanTok_toStr v) (by rcases hsep with rfl | rfl <;> decide) (toStr_head v).2
    (toStr_head v).1

theorem tagTokens_cons (a : Attr) (as : List Attr) (v : Val) (vs : List Val) :
    tagTokens (a :: as) (v :: vs) = (if a.persistent then ' ' :: toStr v else []) ++ tagTokens as vs := rfl

theorem tagTokens_head (as : List Attr) (vs : List Val) (R : List Char) :
    ∃ c t, tagTokens as vs ++ '\n' :: R = c :: t ∧ (c = ' ' ∨ c = '\n') := by
  induction as generalizing vs with
  | nil => exact ⟨'\n', R, rfl, Or.inr rfl⟩
  | cons a as ih =>
    cases vs with
    | nil => exact ⟨'\n', R, rfl, Or.inr rfl⟩
    | cons v vs =>
      rw [tagTokens_cons]
      by_cases hp : a.persistent = true
      · exact ⟨' ', _, by rw [if_pos hp]; rfl, Or.inl rfl⟩
      · rw [if_neg hp]
        exact ih vs

theorem findAttr_append (pre : List Attr) (a : Attr) (as : List Attr)
    (h : ((pre ++ a :: as).map (·.name)).Nodup) : findAttr a.name (pre ++ a :: as) = some (pre.length, a) := by
  induction pre with
  | nil => simp [findAttr]
  | cons b pre ih =>
    simp only [List.cons_append, List.map_cons, List.nodup_cons] at h
    have hb : b.name ≠ a.name := fun e => h.1 (by simp [e])
    simp [findAttr, hb, ih h.2]

theorem entryFor_append (nm : List Char) (pre : List Attr) (a : Attr) (as : List Attr)
    (h : ((pre ++ a :: as).map (·.name)).Nodup) (hk : a.recomputed = false) :
    entryFor ⟨nm, pre ++ a :: as⟩ a.name = some (pre.length, a.ty) := by
  simp [entryFor, findAttr_append pre a as h, hk]

/-- the column loop on the rest of a particle line, `pre` already done.  `readNext` consumes the separator behind a
    token, so the text is at the tokens of `suf` or one character into them, and at the end the newline is left
    over exactly when no column was read. -/
theorem readTags_tagTokens (nm : List Char) (suf : List Attr) :
    ∀ (pre : List Attr) (pv sv : List Val) (R cs : List Char),
      pre.length = pv.length →
      All2 (fun a v => Val.wf a.ty v) suf sv →
      ((pre ++ suf).map (·.name)).Nodup →
      (∀ a ∈ suf, a.persistent = true → a.recomputed = false) →
      (cs = tagTokens suf sv ++ '\n' :: R ∨ ∃ c, tagTokens suf sv ++ '\n' :: R = c :: cs) →
      ∃ R', readTags ((suf.filter (·.persistent)).map (fun a => entryFor ⟨nm, pre ++ suf⟩ a.name)) cs
                (pv ++ suf.map (fun a => defaultVal a.ty))
              = some (pv ++ List.zipWith (fun a v => if a.persistent then v else defaultVal a.ty) suf sv, R')
            ∧ (R' = R ∨ R' = '\n' :: R) := by
  induction suf with
  | nil =>
    intro pre pv sv R cs _ hwf _ _ hcs
    cases sv with
    | cons _ _ => exact False.elim hwf
    | nil =>
      refine ⟨cs, by simp [readTags], ?_⟩
      rcases hcs with h | ⟨c, h⟩
      · exact Or.inr h
      · exact Or.inl (List.cons.inj h).2.symm
  | cons a as ih =>
    intro pre pv sv R cs hlen hwf hnd hrec hcs
    cases sv with
    | nil => exact False.elim hwf
    | cons v vs =>
      rw [tagTokens_cons] at hcs
      have hrec' : ∀ b ∈ as, b.persistent = true → b.recomputed = false := fun b hb => hrec b (by simp [hb])
      -- the remaining columns, `a` done with value `x`
      have step := fun x cs' => ih (pre ++ [a]) (pv ++ [x]) vs R cs' (by simp [hlen]) hwf.2 (by simpa using hnd) hrec'
      simp only [List.append_assoc, List.singleton_append] at step
      by_cases hp : a.persistent = true
      · -- a column of the file
        obtain ⟨sep, T2', hT2, hsep⟩ := tagTokens_head as vs R
        simp only [if_pos hp, List.cons_append, List.append_assoc, hT2] at hcs
        obtain ⟨n, hn⟩ : ∃ n, cs = List.replicate n ' ' ++ (toStr v ++ sep :: T2') := by
          rcases hcs with h | ⟨c, h⟩
          · exact ⟨1, h⟩
          · exact ⟨0, (List.cons.inj h).2.symm⟩
        have hrn : readNext cs = some (toStr v, T2') := hn ▸ readNext_toStr v n hsep T2'
        obtain ⟨R', hR', hRR⟩ := step v T2' (Or.inr ⟨sep, hT2⟩)
        refine ⟨R', ?_, hRR⟩
        simp only [List.filter_cons, hp, if_true, List.map_cons, readTags, hrn,
          entryFor_append nm pre a as hnd (hrec a (by simp) hp), fromStr_toStr hwf.1]
        rw [hlen, List.set_append_right _ _ (Nat.le_refl _), Nat.sub_self, List.set_cons_zero, hR',
          List.zipWith_cons_cons, if_pos hp]
      · -- not in the file: keeps the default
        obtain ⟨R', hR', hRR⟩ := step (defaultVal a.ty) cs (by rwa [if_neg hp, List.nil_append] at hcs)
        exact ⟨R', by simpa [List.filter_cons, hp] using hR', hRR⟩

/-! ## the header -/

/-- `tags[c]` / `writeTags[c]` after the header of species `f` has been read -/
def entriesOf (f : Format) : List Entry := (f.attrs.filter (·.persistent)).map (fun a => entryFor f a.name)

theorem readWord_bang {lead more : List Char} (hl : ∀ c ∈ lead, isCSpace c = true) :
    readWord (lead ++ (bang ++ '\n' :: more)) = (bang, '\n' :: more) :=
  readWord_word hl (by decide) (by decide) (head_cons (by decide))

/- The loops of `createParticles` are entered with the word just read; the lemmas about them bind that pair as `w`. -/
theorem tagLoop_cols (f : Format) (pa : List Attr) :
    ∀ (lead : List Char) (acc : List Entry) (more : List Char) (fuel : Nat),
      (∀ c ∈ lead, isCSpace c = true) → (∀ a ∈ pa, WordLike a.name) → pa.length ≤ fuel →
      ∀ w, w = readWord (lead ++ (pa.flatMap (fun a => a.name ++ [' ']) ++ (bang ++ '\n' :: more))) →
        tagLoop f (fuel + 1) w.1 w.2 acc = (acc ++ pa.map (fun a => entryFor f a.name), '\n' :: more) := by
  induction pa with
  | nil =>
    rintro lead acc more fuel hl _ _ _ rfl
    rw [List.flatMap_nil, List.nil_append, readWord_bang hl]
    simp [tagLoop]
  | cons a as ih =>
    rintro lead acc more fuel hl hw hf _ rfl
    obtain ⟨h1, h2, h3⟩ := hw a (by simp)
    rw [List.flatMap_cons, List.append_assoc, List.append_assoc, readWord_word hl h1 h2 (by simp [isCSpace])]
    cases fuel with
    | zero => simp at hf
    | succ k =>
      rw [tagLoop, if_neg (by simp [h3])]
      simp only
      rw [ih [' '] _ more k (by decide) (fun b hb => hw b (by simp [hb]))
        (by simpa using hf) _ rfl]
      simp

theorem getColour_append (done : List Format) (f : Format) (todo : List Format)
    (h : ((done ++ f :: todo).map (·.name)).Nodup) : getColour (done ++ f :: todo) f.name = some done.length := by
  induction done with
  | nil => simp [getColour]
  | cons b done ih =>
    simp only [List.cons_append, List.map_cons, List.nodup_cons] at h
    have hb : b.name ≠ f.name := fun e => h.1 (by simp [e])
    simp [getColour, hb, ih h.2]

theorem length_le_flatMap {α β : Type} (f : α → List β) (hf : ∀ a, 1 ≤ (f a).length) (l : List α) :
    l.length ≤ (l.flatMap f).length := by
  induction l with
  | nil => simp
  | cons a as ih =>
    have := hf a
    rw [List.flatMap_cons, List.length_append, List.length_cons]
    omega

theorem headerLine_eq (f : Format) (X : List Char) :
    headerLine f ++ X = f.name ++ ' ' :: ((f.attrs.filter (·.persistent)).flatMap (fun a => a.name ++ [' ']) ++
      (bang ++ '\n' :: X)) := by
  simp [headerLine]

theorem hdrLoop_headers (todo : List Format) :
    ∀ (done : List Format) (lead REST : List Char) (table : Nat → List Entry) (fuel : Nat),
      (∀ f ∈ done ++ todo, f.wf) → (((done ++ todo).map (·.name)).Nodup) →
      (∀ c ∈ lead, isCSpace c = true) → (todo.flatMap headerLine).length ≤ fuel →
      (∀ c, table c = if c < done.length then entriesOf ((done ++ todo).getD c default) else []) →
      ∀ w, w = readWord (lead ++ (todo.flatMap headerLine ++ (bang ++ '\n' :: REST))) →
      ∃ table', hdrLoop (done ++ todo) (fuel + 1) w.1 w.2 table = .ok (table', '\n' :: REST)
        ∧ ∀ c, table' c = if c < (done ++ todo).length then entriesOf ((done ++ todo).getD c default) else [] := by
  induction todo with
  | nil =>
    rintro done lead REST table fuel _ _ hl _ htab _ rfl
    refine ⟨table, ?_, by simpa using htab⟩
    rw [List.flatMap_nil, List.nil_append, readWord_bang hl]
    simp [hdrLoop]
  | cons f fs ih =>
    rintro done lead REST table fuel hwf hnd hl hf htab _ rfl
    obtain ⟨⟨h1, h2, h3⟩, hattr, -, -⟩ := hwf f (by simp)
    rw [List.flatMap_cons, List.append_assoc, headerLine_eq, readWord_word hl h1 h2 (head_cons (by decide))]
    have hlen : 1 ≤ (headerLine f).length ∧
        (f.attrs.filter (·.persistent)).length ≤ (headerLine f).length := by
      have := length_le_flatMap (fun a : Attr => a.name ++ [' ']) (fun a => by simp) (f.attrs.filter (·.persistent))
      simp only [headerLine, List.length_append, List.length_cons]; omega
    simp only [List.flatMap_cons, List.length_append] at hf
    cases fuel with
    | zero => omega
    | succ k =>
      rw [hdrLoop, if_neg (by simp [h3]), getColour_append done f fs hnd]
      simp only
      have ht := tagLoop_cols f (f.attrs.filter (·.persistent)) [' '] [] (fs.flatMap headerLine ++ (bang ++ '\n' :: REST))
        (k + 1) (by decide) (fun a ha => hattr a (List.mem_filter.mp ha).1) (by omega) _ rfl
      rw [List.singleton_append] at ht
      rw [show (done ++ f :: fs).getD done.length default = f by simp [List.getD], ht]
      simp only [List.nil_append]
      rw [if_neg (by simp)]
      have step := ih (done ++ [f]) ['\n'] REST
      simp only [List.append_assoc, List.singleton_append] at step
      refine step _ k hwf hnd (by decide) (by omega) (fun c => ?_) _ rfl
      by_cases hc : c = done.length
      · subst hc
        simp [htab, entriesOf]
      · simp only [hc, if_false, htab, List.length_append, List.length_singleton]
        by_cases hlt : c < done.length
        · simp [hlt, Nat.lt_succ_of_lt hlt]
        · simp [hlt, show ¬ c < done.length + 1 by omega]

/-! ## the particle lines -/

def lineOf (fmts : List Format) (r : Rec) : List Char :=
  particleLine (fmts.getD r.colour default) r.frozen r.p

def restrictRec (fmts : List Format) (r : Rec) : Rec :=
  { r with p := r.p.persistentPart (fmts.getD r.colour default) }

theorem particleLine_append (f : Format) (frozen : Bool) (p : Particle) (X : List Char) :
    particleLine f frozen p ++ X = f.name ++ ' ' :: ((if frozen then wFrozen else wFree) ++ ' ' ::
      (fmtP3s 8 p.r ++ ' ' :: (fmtP3s 8 p.v ++ (tagTokens f.attrs p.tags ++ '\n' :: X)))) := by
  simp [particleLine]

theorem getColour_getD (fmts : List Format) (hnd : (fmts.map (·.name)).Nodup) (c : Nat) (hc : c < fmts.length) :
    getColour fmts (fmts.getD c default).name = some c := by
  have hsplit : fmts = fmts.take c ++ fmts[c] :: fmts.drop (c + 1) := by
    rw [List.getElem_cons_drop]; simp
  have := getColour_append (fmts.take c) fmts[c] (fmts.drop (c + 1)) (by rw [← hsplit]; exact hnd)
  rw [← hsplit, List.length_take, Nat.min_eq_left (Nat.le_of_lt hc)] at this
  rw [show fmts.getD c default = fmts[c] by simp [List.getD, hc], this]

theorem partLoop_lines (fmts : List Format) (table : Nat → List Entry)
    (hfm : ∀ f ∈ fmts, f.wf) (hnd : (fmts.map (·.name)).Nodup)
    (htab : ∀ c, c < fmts.length → table c = entriesOf (fmts.getD c default)) (recs : List Rec) :
    ∀ (lead : List Char) (acc : List Rec) (fuel : Nat),
      (∀ c ∈ lead, isCSpace c = true) → recs.length ≤ fuel →
      (∀ r ∈ recs, r.colour < fmts.length ∧ Particle.wf (fmts.getD r.colour default) r.p) →
      ∀ w, w = readWord (lead ++ (recs.flatMap (lineOf fmts) ++ (bang ++ ['\n']))) →
        partLoop fmts table (fuel + 1) w.1 w.2 acc = .ok (acc ++ recs.map (restrictRec fmts)) := by
  induction recs with
  | nil =>
    rintro lead acc fuel hl _ _ _ rfl
    rw [List.flatMap_nil, List.nil_append, readWord_bang hl]
    simp [partLoop]
  | cons r rs ih =>
    rintro lead acc fuel hl hf hw _ rfl
    obtain ⟨hc, hp⟩ := hw r (by simp)
    generalize hf' : fmts.getD r.colour default = f at hp
    have hmem : f ∈ fmts := by
      rw [← hf', List.getD, List.getElem?_eq_getElem hc]
      exact List.getElem_mem hc
    obtain ⟨⟨h1, h2, h3⟩, -, hnodup, hkept⟩ := hfm f hmem
    rw [List.flatMap_cons, List.append_assoc, lineOf, hf', particleLine_append,
      readWord_word hl h1 h2 (head_cons (by decide))]
    cases fuel with
    | zero => simp at hf
    | succ k =>
      obtain ⟨sep, T, hT, hsep⟩ := tagTokens_head f.attrs r.p.tags (rs.flatMap (lineOf fmts) ++ (bang ++ ['\n']))
      obtain ⟨R', hR', hRR⟩ := readTags_tagTokens f.name f.attrs [] [] r.p.tags
        (rs.flatMap (lineOf fmts) ++ (bang ++ ['\n'])) _ rfl hp.tags (by simpa using hnodup) hkept (Or.inl rfl)
      rw [partLoop, if_neg (not_or.mpr ⟨h3, List.cons_ne_nil _ _⟩), ← hf', getColour_getD fmts hnd r.colour hc, hf']
      simp only
      rw [readParticle_line r.frozen hp.r hp.v (by rw [hT]; exact numEnd_of_space hsep), htab r.colour hc, hf']
      simp only [List.nil_append] at hR' ⊢
      rw [entriesOf, hR']
      -- the newline behind the line has been consumed with the last column, or is still there
      obtain ⟨lead', hl', rfl⟩ : ∃ lead', (∀ c ∈ lead', isCSpace c = true) ∧ R' = lead' ++ (rs.flatMap (lineOf fmts) ++ (bang ++ ['\n'])) := by
        rcases hRR with rfl | rfl
        · exact ⟨[], by simp, rfl⟩
        · exact ⟨['\n'], by decide, rfl⟩
      simp only
      rw [ih lead' _ k hl' (by simpa using hf) (fun x hx => hw x (by simp [hx])) _ rfl]
      subst hf'
      simp [restrictRec, Particle.persistentPart]

/-! ## lists of lists -/

theorem All2.length_eq {α β : Type} {R : α → β → Prop} : ∀ {l : List α} {m : List β}, All2 R l m → l.length = m.length
  | [], [], _ => rfl
  | [], _ :: _, h => False.elim h
  | _ :: _, [], h => False.elim h
  | _ :: _, _ :: _, h => congrArg (· + 1) (All2.length_eq h.2)

theorem All2.zipWith_eq_right {α β : Type} {R : α → β → Prop} {f : α → β → β} :
    ∀ {l : List α} {m : List β}, All2 R l m → (∀ a ∈ l, ∀ b, R a b → f a b = b) → List.zipWith f l m = m
  | [], [], _, _ => rfl
  | [], _ :: _, h, _ => False.elim h
  | _ :: _, [], h, _ => False.elim h
  | a :: _, b :: _, h, hf => by
    rw [List.zipWith_cons_cons, hf a (by simp) b h.1, All2.zipWith_eq_right h.2 (fun a' ha' => hf a' (by simp [ha']))]

theorem particleLines_eq (fmts : List Format) (fz : Bool) (pss : List (List Particle)) :
    ∀ k, k + pss.length ≤ fmts.length →
      particleLines fz (fmts.drop k) pss = (recsFrom fz k pss).flatMap (lineOf fmts) := by
  induction pss with
  | nil => intro k _; cases fmts.drop k <;> simp [particleLines, recsFrom]
  | cons ps pss ih =>
    intro k hk
    rw [List.length_cons] at hk
    have hk' : k < fmts.length := by omega
    rw [List.drop_eq_getElem_cons hk']
    simp only [particleLines, recsFrom, List.flatMap_append]
    rw [ih (k + 1) (by omega)]
    congr 1
    rw [List.flatMap_map]
    simp [lineOf, List.getElem?_eq_getElem hk']

theorem recsFrom_wf (fmts : List Format) (fz : Bool) (pss : List (List Particle)) :
    ∀ k, All2 (fun f ps => ∀ p ∈ ps, Particle.wf f p) (fmts.drop k) pss →
      ∀ r ∈ recsFrom fz k pss, r.colour < fmts.length ∧ Particle.wf (fmts.getD r.colour default) r.p := by
  induction pss with
  | nil => intro k _ r hr; simp [recsFrom] at hr
  | cons ps pss ih =>
    intro k h r hr
    by_cases hk' : k < fmts.length
    · rw [List.drop_eq_getElem_cons hk'] at h
      simp only [recsFrom, List.mem_append, List.mem_map] at hr
      rcases hr with ⟨p, hp, rfl⟩ | hr
      · exact ⟨hk', by simpa [List.getD, hk'] using h.1 p hp⟩
      · exact ih (k + 1) h.2 r hr
    · rw [List.drop_eq_nil_of_le (by omega)] at h
      exact False.elim h

theorem recsFrom_restrict (fmts : List Format) (fz : Bool) (pss : List (List Particle)) :
    ∀ k, k + pss.length ≤ fmts.length →
      (recsFrom fz k pss).map (restrictRec fmts)
        = recsFrom fz k (List.zipWith (fun f ps => ps.map (Particle.persistentPart f)) (fmts.drop k) pss) := by
  induction pss with
  | nil => intro k _; simp [recsFrom]
  | cons ps pss ih =>
    intro k hk
    rw [List.length_cons] at hk
    have hk' : k < fmts.length := by omega
    rw [List.drop_eq_getElem_cons hk']
    simp only [recsFrom, List.map_append, List.zipWith_cons_cons]
    rw [ih (k + 1) (by omega)]
    congr 1
    simp [restrictRec, List.getElem?_eq_getElem hk']

theorem filter_recsFrom (fz fz' : Bool) (c : Nat) (pss : List (List Particle)) :
    ∀ k, ((recsFrom fz k pss).filter (fun r => r.colour = c ∧ r.frozen = fz')).map (·.p)
      = if fz = fz' ∧ k ≤ c then pss.getD (c - k) [] else [] := by
  induction pss with
  | nil => intro k; simp [recsFrom]
  | cons ps pss ih =>
    intro k
    simp only [recsFrom, List.filter_append, List.map_append]
    rw [ih (k + 1)]
    by_cases h1 : fz = fz'
    · subst h1
      by_cases h2 : k = c
      · subst h2
        have : ¬ (k + 1 ≤ k) := by omega
        simp [this, List.filter_map, Function.comp_def]
      · by_cases h3 : k ≤ c
        · have h4 : k + 1 ≤ c := by omega
          have h5 : c - k = (c - (k + 1)) + 1 := by omega
          simp [h3, h4, List.filter_map, Function.comp_def, h2, h5]
        · have h4 : ¬ k + 1 ≤ c := by omega
          simp [h3, h4, List.filter_map, Function.comp_def, h2]
    · simp [h1, List.filter_map, Function.comp_def]

theorem range_getD {α : Type} (l : List α) (d : α) (n : Nat) (h : l.length = n) :
    (List.range n).map (fun c => l.getD c d) = l := by
  apply List.ext_getElem
  · simp [h]
  · intro i h1 h2
    simp [List.getD, List.getElem?_eq_getElem h2]

theorem toPhase_records (n : Nat) (sys : System) (h1 : sys.free.length = n) (h2 : sys.frozen.length = n) :
    toPhase n sys.records = sys := by
  have h : ∀ fz c, (sys.records.filter (fun r => r.colour = c ∧ r.frozen = fz)).map (·.p) =
      (if fz then sys.frozen else sys.free).getD c [] := by
    intro fz c
    simp only [System.records, List.filter_append, List.map_append, filter_recsFrom]
    cases fz <;> simp
  cases sys with
  | mk free frozen =>
    simp only [toPhase, h, Bool.false_eq_true, if_false, if_true]
    rw [range_getD free [] n h1, range_getD frozen [] n h2]

theorem records_persistentPart (fmts : List Format) (sys : System) (hf : fmts.length = sys.free.length)
    (hz : fmts.length = sys.frozen.length) :
    (sys.persistentPart fmts).records = sys.records.map (restrictRec fmts) := by
  have a := recsFrom_restrict fmts false sys.free 0 (by omega)
  have b := recsFrom_restrict fmts true sys.frozen 0 (by omega)
  simp only [List.drop_zero] at a b
  simp [System.records, System.persistentPart, a, b]

theorem read_write (fmts : List Format) (sys : System) (h : System.wf fmts sys) :
    read fmts (write fmts sys) = .ok (sys.persistentPart fmts).records := by
  have hlf := h.free.length_eq
  have hlz := h.frozen.length_eq
  have hrw : ∀ r ∈ sys.records, r.colour < fmts.length ∧ Particle.wf (fmts.getD r.colour default) r.p := by
    intro r hr
    simp only [System.records, List.mem_append] at hr
    rcases hr with hr | hr
    · exact recsFrom_wf fmts false sys.free 0 (by simpa using h.free) r hr
    · exact recsFrom_wf fmts true sys.frozen 0 (by simpa using h.frozen) r hr
  unfold read
  have hw : write fmts sys = [] ++ (fmts.flatMap headerLine ++ (bang ++ '\n' ::
      (sys.records.flatMap (lineOf fmts) ++ (bang ++ ['\n'])))) := by
    have a := particleLines_eq fmts false sys.free 0 (by omega)
    have b := particleLines_eq fmts true sys.frozen 0 (by omega)
    simp only [List.drop_zero] at a b
    simp [write, a, b, System.records, List.flatMap_append]
  have hlen : (fmts.flatMap headerLine).length ≤ (write fmts sys).length ∧ sys.records.length ≤ (write fmts sys).length := by
    have := length_le_flatMap (lineOf fmts) (fun r => by simp [lineOf, particleLine]; omega) sys.records
    rw [hw]; simp only [List.nil_append, List.length_append, List.length_cons]; omega
  obtain ⟨table', ht1, ht2⟩ := hdrLoop_headers fmts [] [] (sys.records.flatMap (lineOf fmts) ++ (bang ++ ['\n']))
    (fun _ => []) (write fmts sys).length (by simpa using h.formats) (by simpa using h.names) (by simp)
    hlen.1 (by intro c; simp) _ rfl
  simp only [List.nil_append] at ht1 ht2 hw
  generalize (write fmts sys).length = fuel at *
  rw [hw]
  simp only
  rw [ht1]
  simp only
  have := partLoop_lines fmts table' h.formats h.names (fun c hc => by rw [ht2 c, if_pos hc]) sys.records
    ['\n'] [] fuel (by decide) hlen.2 hrw _ rfl
  simp only [List.singleton_append, List.nil_append] at this
  rw [this, records_persistentPart fmts sys hlf hlz]

theorem restore_write (fmts : List Format) (sys : System) (h : System.wf fmts sys) :
    restore fmts (write fmts sys) = .ok (sys.persistentPart fmts) := by
  unfold restore
  rw [read_write fmts sys h]
  simp only
  rw [toPhase_records]
  · simp [System.persistentPart, ← h.free.length_eq]
  · simp [System.persistentPart, ← h.frozen.length_eq]

end Sympler.Restart
