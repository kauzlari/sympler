import Sympler.Basic
import Sympler.Gen.ExprTableGen

/-!
# C03 — the expression language: parser, interpreter, C emitter, C reader

Executable model of `/repo/source/src/function_parser/`:

* `parse`      — `FunctionParser::parseThis` / `findWithoutParentheses` / `valueFromString`
                 (function_parser.cpp), at the character level, driven by the GENERATED operator table
                 `Sympler.Gen.ExprTable` (registration order, priorities);
* `denote`     — the interpreter `FunctionNode::value()` of every node class
                 (binary_operators.cpp, unary_functions.cpp, unary_operators.cpp, fp_*.h) over `Rat`;
* `toCE`/`toC` — the emitter `FunctionNode::toC()` of every node class; `toC` produces THE SAME strings;
* `parseC`/`evalC` — a reader and evaluator for the C-expression subset the emitter produces: the
                 SPECIFICATION of what gcc makes of the emitted text (trusted; validated against gcc by
                 the correspondence harness `/verif/harness/h_parser.cpp`);
* `driver`     — line protocol for `symdrv` (model name `expr`).

Lemma files: `ExprBasics` (shared by the others), `ExprCLemmas` (the C reader reads back what the emitter
writes), `ExprEmitLemmas` (emitter against interpreter), `ExprDblLemmas` (no integer-typed C term is emitted), `ExprParseLemmas`
(termination, well-formed trees), `ExprSurface` / `ExprSurfaceLemmas` / `ExprUsualLemmas` (the grammar of
the parser and the usual grammar).  Theorems: `Props/C03.lean`.

Conventions of the model (see also the doc comments):

* strings are `List Char`; the real code works on bytes, which is the same for valid UTF-8 because every
  operator name is valid UTF-8 (the matrix product `°` is the two bytes C2 B0 in the source);
* numbers are `Rat`.  The *exact regime*: literals and variable values are doubles (dyadic), `+ - *` do
  not round.  A division by zero is the error `div0` in `denote` and in `evalC` alike (the real code
  produces `inf`/`nan`);
* libm functions (`sqrt sin … exp`, `pow` with a non-integral exponent, `M_PI`) are oracles in `Env`;
* every way the parser, the interpreter and the emitter stop is a `gError` of the real code and an
  `Err` here.  (Before the commits ad91e0f / 461b1b3 of /repo the real code could also hang in the
  bracket loop, die of an uncaught `std::out_of_range` or of a NULL dereference, and emit C `int`
  sub-expressions; the pre-fix definitions are kept, clearly named `…Old`, in `ExprHistory.lean`.)

Core Lean only.
-/
namespace Sympler.Expr

open Sympler.Gen

/-! ## Errors -/

inductive Err
  /-- `parseThis`: "Empty bracket!" -/
  | emptyBracket
  /-- `valueFromString`: the empty expression -/
  | emptyOperand
  /-- `valueFromString`: neither a defined symbol nor a number -/
  | unknownSymbol
  /-- a text `strtod` accepts but the model does not interpret (hex floats, `inf`, `nan`): model abstains -/
  | exoticNumber
  /-- the generated table contains a name the model has no semantics for -/
  | unknownOperator
  /-- the fuel of `parseCore` / `stripLoop` ran out (proved impossible: `parse_ne_fuel`, `C03_total`) -/
  | fuel
  /-- `parseThis`: "Unbalanced brackets in expression …": the `while(open)` loop finds no further bracket -/
  | unbalanced
  /-- a `gError` thrown by `value()` / `toC()` for wrong operand types -/
  | type
  /-- `FPScalarVariable` / `FPVectorVariable` / `FPTensorVariable::value()` with a NULL value pointer
  (a `gError`) -/
  | nullValue
  /-- division by zero: outside the rational fragment -/
  | div0
  /-- the oracle for libm functions declined (driver) -/
  | opaque
  /-- `uran`: a random number -/
  | random
  /-- the C reader does not understand the text -/
  | cSyntax
  /-- the C text performs an integer division that truncates (C semantics of `int / int`; never produced
  by emitted text: `C03_emit_no_int_division`) -/
  | intTrunc
  /-- the C text divides an `int` by the `int` zero (undefined behaviour; SIGFPE / `ud2`; never produced
  by emitted text either) -/
  | intDiv0
  /-- internal: an exponent outside the modelled range -/
  | range
  deriving DecidableEq, Repr

def Err.kind : Err → String
  | .emptyBracket => "empty-bracket"
  | .emptyOperand => "empty-operand"
  | .unknownSymbol => "unknown-symbol"
  | .exoticNumber => "exotic-number"
  | .unknownOperator => "unknown-operator"
  | .fuel => "fuel"
  | .unbalanced => "unbalanced"
  | .type => "type"
  | .nullValue => "null-value"
  | .div0 => "div0"
  | .opaque => "opaque"
  | .random => "random"
  | .cSyntax => "c-syntax"
  | .intTrunc => "int-trunc"
  | .intDiv0 => "int-div0"
  | .range => "range"

deriving instance DecidableEq for Except

/-! ## Operator table -/

inductive BinOp | add | sub | mul | div | contract | dot | outer | pow
  deriving DecidableEq, Repr

/-- The unary functions.  `lib name cname` is a `MAKE_UNARY_FUNCTION(name, cname, _)` instance. -/
inductive Fn
  | lib (name cname : String)
  | det | diagMat | idVec | idMat | Q | step | stpVal | T | trace | unitMat | uran
  | uVecX | uVecY | uVecZ | xyMat | xCoord | yCoord | zCoord
  deriving DecidableEq, Repr

def BinOp.ofName : String → Option BinOp
  | "+" => some .add | "-" => some .sub | "*" => some .mul | "/" => some .div
  | ":" => some .contract | "°" => some .dot | "@" => some .outer | "^" => some .pow
  | _ => none

def BinOp.name : BinOp → String
  | .add => "+" | .sub => "-" | .mul => "*" | .div => "/"
  | .contract => ":" | .dot => "°" | .outer => "@" | .pow => "^"

/-- semantics of a registered function name; macro functions are recognised through the generated
`macroFuncs` table. -/
def Fn.ofName (n : String) : Option Fn :=
  match ExprTable.macroFuncs.lookup n with
  | some c => some (.lib n c)
  | none =>
    match n with
    | "det" => some .det | "diagMat" => some .diagMat | "idVec" => some .idVec
    | "idMat" => some .idMat | "Q" => some .Q | "step" => some .step | "stpVal" => some .stpVal
    | "T" => some .T | "trace" => some .trace | "unitMat" => some .unitMat | "uran" => some .uran
    | "uVecX" => some .uVecX | "uVecY" => some .uVecY | "uVecZ" => some .uVecZ
    | "xyMat" => some .xyMat | "xCoord" => some .xCoord | "yCoord" => some .yCoord
    | "zCoord" => some .zCoord
    | _ => none

def Fn.name : Fn → String
  | .lib n _ => n
  | .det => "det" | .diagMat => "diagMat" | .idVec => "idVec" | .idMat => "idMat" | .Q => "Q"
  | .step => "step" | .stpVal => "stpVal" | .T => "T" | .trace => "trace" | .unitMat => "unitMat"
  | .uran => "uran" | .uVecX => "uVecX" | .uVecY => "uVecY" | .uVecZ => "uVecZ"
  | .xyMat => "xyMat" | .xCoord => "xCoord" | .yCoord => "yCoord" | .zCoord => "zCoord"

/-- A `FunctionNode_Factory`: its name as characters and its node type. -/
structure Factory where
  name : List Char
  isBinary : Bool
  deriving DecidableEq, Repr

/-- `FunctionNode_Factory::byPriority(i)`: the factories registered with priority `i`, in registration
order.  Binary operators and unary functions live in different translation units; inside one priority
the model lists the binary operators first (`tableSeparated` below: no priority holds both kinds, so the
link order is irrelevant). -/
def byPriority (i : Nat) : List Factory :=
  ((ExprTable.binaryOps.filter (·.2 = i)).map fun p => ⟨p.1.toList, true⟩) ++
  ((ExprTable.unaryFuncs.filter (·.2 = i)).map fun p => ⟨p.1.toList, false⟩)

/-- all factories in the order `parseThis` tries them: priority `0 … C_MAX_PRIORITY-1`, inside one
priority in registration order. -/
def factories : List Factory :=
  (List.range ExprTable.maxPriority).flatMap byPriority

/-! ## The parse tree -/

inductive Tree
  /-- a declared symbol (`FPScalarVariable`, `FPVectorVariable`, `FPTensorVariable`) -/
  | sym (name : String)
  /-- `FPScalarConstant` made from a text that `strtod` accepted completely -/
  | num (text : String)
  /-- the constant `pi` -/
  | pi
  /-- `FNNegation` -/
  | neg (a : Tree)
  | bin (op : BinOp) (a b : Tree)
  | fn (f : Fn) (a : Tree)
  deriving DecidableEq, Repr

/-- canonical prefix form (the same text is printed by the harness from the real tree) -/
def Tree.show : Tree → String
  | .sym n => "sym:" ++ n
  | .num t => "num:" ++ t
  | .pi => "pi"
  | .neg a => "(neg " ++ a.show ++ ")"
  | .bin op a b => "(" ++ op.name ++ " " ++ a.show ++ " " ++ b.show ++ ")"
  | .fn f a => "(fn:" ++ f.name ++ " " ++ a.show ++ ")"

/-! ## `findWithoutParentheses` -/

/-- The loop of `findWithoutParentheses(s, substr)` while it walks from the right: `pre` is the reversed
prefix `s[0..p]` (its head is `s[p]`), `suf` is `s[p+1..]`, `level` the bracket level (a `size_t` in the
C++; it is only compared with `0`, so `Int` is the same).  Returns the index `p` where the loop stops
because `string(s, p, n) == substr && level == 0`, or `none` for `-1`. -/
def findGo (name : List Char) : List Char → List Char → Int → Option Nat
  | [], _, _ => none
  | c :: pre, suf, level =>
    if name.isPrefixOf (c :: suf) && level == 0 then some pre.length
    else findGo name pre (c :: suf)
      (if c = ')' then level + 1 else if c = '(' then level - 1 else level)

/-- `findWithoutParentheses(s, name)`: right-most position of `name` outside parentheses. -/
def findWP (s name : List Char) : Option Nat := findGo name s.reverse [] 0

/-! ## The all-enclosing-bracket loop of `parseThis` -/

/-- One run of `while(open)`, started behind index 0 with `open = 1`: walks the brackets of `cs` (index
of its head = `i`).  `(some p, _)`: `open` reached 0 at the `)` with index `p`; `(none, o)`: the end was
reached with `open = o ≥ 1` — neither `(` nor `)` is left, the real loop throws "Unbalanced brackets". -/
def scanClose : List Char → Nat → Nat → Option Nat × Nat
  | [], _, o => (none, o)
  | c :: cs, i, o =>
    if c = '(' then scanClose cs (i+1) (o+1)
    else if c = ')' then (if o ≤ 1 then (some i, 0) else scanClose cs (i+1) (o-1))
    else scanClose cs (i+1) o

/-- The `do … while (foundBrackets)` loop, one pass per unit of fuel:
* `expr.size() < 2 || expr[0] != '('` (after removing an all-enclosing bracket the rest need not start
  with a bracket any more): the loop ends;
* `expr[1] == ')'`: "Empty bracket!";
* the `while(open)` scan, started behind index 0 with `open = 1`, finds neither `(` nor `)` any more
  while `open > 0`: "Unbalanced brackets";
* the `)` matching index 0 is the last character: strip both and repeat; otherwise the loop ends.
Every pass but the last shortens the text by two characters, so the fuel `length + 1` supplied by
`stripBrackets` is never exhausted (`stripLoop_ne_fuel`). -/
def stripLoop : Nat → List Char → Except Err (List Char)
  | 0, _ => .error .fuel
  | fuel+1, e =>
    match e with
    | c0 :: c1 :: tl =>
      if c0 ≠ '(' then .ok e
      else if c1 = ')' then .error .emptyBracket
      else
        match scanClose (c1 :: tl) 1 1 with
        | (some p, _) => if p + 1 = e.length then stripLoop fuel (c1 :: tl).dropLast else .ok e
        | (none, _) => .error .unbalanced
    | _ => .ok e

/-- the bracket prologue of `parseThis`: `if(expr[0] == '(') { if(expr[1] == ')') throw …; do … }` -/
def stripBrackets (e : List Char) : Except Err (List Char) :=
  match e with
  | '(' :: rest =>
    if rest.head? = some ')' then .error .emptyBracket
    else stripLoop (e.length + 1) e
  | _ => .ok e

/-! ## Numeric literals (`strtod` accepting the whole text) -/

def isSpace (c : Char) : Bool :=
  c = ' ' || c = '\t' || c = '\n' || c = '\x0b' || c = '\x0c' || c = '\r'

def digitVal (c : Char) : Nat := c.toNat - '0'.toNat

/-- value of a digit string, most significant first -/
def digitsVal (ds : List Char) : Nat := ds.foldl (fun acc c => 10 * acc + digitVal c) 0

/-- the longest prefix of digits and the rest -/
def spanDigits : List Char → List Char × List Char
  | [] => ([], [])
  | c :: cs => if c.isDigit then let (d, r) := spanDigits cs; (c :: d, r) else ([], c :: cs)

def isNumChar (c : Char) : Bool := c.isDigit || c = '.' || c = 'e' || c = 'E'

/-- mantissa digits `ip.fp` (with or without a dot) followed by `r2`: nothing or an exponent -/
def decimalTail (ip fp : List Char) (hasDot : Bool) (r2 : List Char) : Option Rat :=
  if ip.isEmpty && fp.isEmpty then none
  else if ip.isEmpty && !hasDot then none
  else
    let mant : Rat := (digitsVal (ip ++ fp) : Rat) / ((10 : Rat) ^ fp.length)
    match r2 with
    | [] => some mant
    | c :: r =>
      if c = 'e' || c = 'E' then
        let p := spanDigits r
        if p.1.isEmpty || !p.2.isEmpty || p.1.length > 3 then none
        else some (mant * (10 : Rat) ^ digitsVal p.1)
      else none

def decimalCore (cs : List Char) : Option Rat :=
  let p1 := spanDigits cs
  match p1.2 with
  | '.' :: r => let p2 := spanDigits r; decimalTail p1.1 p2.1 true p2.2
  | _ => decimalTail p1.1 [] false p1.2

/-- An unsigned decimal floating literal `digits[.digits][(e|E)digits]` or `.digits[…]`, completely
(exponents of at most three digits).  Signs cannot reach `strtod`: `+` and `-` are operators and split
the text before.  The first two tests are implied by the third and only make that explicit. -/
def decimalVal (cs : List Char) : Option Rat :=
  if cs.all isNumChar && cs.head?.any (fun c => c.isDigit || c = '.') then decimalCore cs else none

def lower (cs : List Char) : List Char := cs.map Char.toLower

/-- texts that `strtod` may accept but the model does not interpret -/
def isExotic (cs : List Char) : Bool :=
  let l := lower cs
  l = "inf".toList || l = "infinity".toList || l = "nan".toList ||
  ("nan(".toList.isPrefixOf l && l.getLast? = some ')') ||
  ("0x".toList.isPrefixOf l && l.length > 2 &&
    (l.drop 2).all (fun c => c.isDigit || ('a' ≤ c && c ≤ 'f') || c = '.' || c = 'p')) ||
  -- decimal exponents of more than three digits are not evaluated by the model
  (l.all (fun c => c.isDigit || c = '.' || c = 'e') && ((l.dropWhile (· ≠ 'e')).length > 4))

inductive NumClass | decimal (r : Rat) | exotic | notNumber
  deriving Repr

/-- `strtod` skips leading white space. -/
def classifyNumber (cs : List Char) : NumClass :=
  let t := cs.dropWhile isSpace
  match decimalVal t with
  | some r =>
    -- outside the range of normal doubles `strtod` returns `inf` / a subnormal / 0: model abstains
    if r ≥ (2 : Rat) ^ 1024 || (0 < r && r < 1 / (2 : Rat) ^ 1022) then .exotic else .decimal r
  | none => if isExotic t then .exotic else .notNumber

/-! ## `valueFromString` and `parseThis` -/

/-- `valueFromString(expr)`; `known` = "is the name of a symbol in `m_symbols`" (the callback of the
production code always returns NULL). -/
def valueFromString (known : String → Bool) (e : List Char) : Except Err Tree :=
  let s := String.ofList e
  if known s then .ok (.sym s)
  else if e.isEmpty then .error .emptyOperand
  else match classifyNumber e with
    | .decimal _ => .ok (.num s)
    | .exotic => .error .exoticNumber
    | .notNumber => if s = "pi" then .ok .pi else .error .unknownSymbol

/-- The two nested `for` loops of `parseThis`: the first factory (priority order, then registration
order) whose name is found outside parentheses — for a unary function only if the right-most occurrence
is at position 0. -/
def selectFactory : List Factory → List Char → Option (Factory × Nat)
  | [], _ => none
  | f :: fs, e =>
    match findWP e f.name with
    | some pos => if f.isBinary || pos = 0 then some (f, pos) else selectFactory fs e
    | none => selectFactory fs e

/-- `parseThis` behind the bracket prologue; `rec` = `parseThis` for the operands.
The two operands of `setBinary(parseThis(left), parseThis(right))` are evaluated right to left (gcc,
x86-64), which decides which error is reported when both operands are faulty. -/
def parseBody (known : String → Bool) (rec : List Char → Except Err Tree) (expr : List Char) :
    Except Err Tree :=
  match selectFactory factories expr with
  | none => valueFromString known expr
  | some (f, pos) =>
    let name := String.ofList f.name
    if f.isBinary then
      if name = "-" && pos = 0 then do
        let a ← rec (expr.drop 1)
        .ok (.neg a)
      else
        match BinOp.ofName name with
        | none => .error .unknownOperator
        | some op => do
          let b ← rec (expr.drop (pos + f.name.length))
          let a ← rec (expr.take pos)
          .ok (.bin op a b)
    else
      match Fn.ofName name with
      | none => .error .unknownOperator
      | some fn => do
        let a ← rec (expr.drop f.name.length)
        .ok (.fn fn a)

/-- `parseThis`, with fuel (`parse` supplies `length + 1`, which is enough: `parseCore_ne_fuel`). -/
def parseCore (known : String → Bool) : Nat → List Char → Except Err Tree
  | 0, _ => .error .fuel
  | fuel+1, expression => do
    let expr ← stripBrackets expression
    parseBody known (parseCore known fuel) expr

/-- `FunctionParser::parse(expression)` with the declared symbol names `syms`. -/
def parse (syms : List String) (s : String) : Except Err Tree :=
  parseCore (fun n => syms.contains n) (s.toList.length + 1) s.toList


/-! ## Values: scalar, vector, 3x3 matrix (`Variant`) -/

structure V3 (α : Type) where
  x : α
  y : α
  z : α
  deriving DecidableEq, Repr

/-- row major as `Variant::m_doubles` / `tensor_t::tensor`: index `j + 3*i` is row `i`, column `j`. -/
structure M9 (α : Type) where
  xx : α
  xy : α
  xz : α
  yx : α
  yy : α
  yz : α
  zx : α
  zy : α
  zz : α
  deriving DecidableEq, Repr

inductive Val (α : Type)
  | s (a : α)
  | v (a : V3 α)
  | t (a : M9 α)
  deriving DecidableEq, Repr

inductive Ty | scalar | vector | tensor
  deriving DecidableEq, Repr

def Ty.name : Ty → String
  | .scalar => "scalar" | .vector => "vector" | .tensor => "tensor"

def Ty.size : Ty → Nat
  | .scalar => 1 | .vector => 3 | .tensor => 9

namespace V3
def map (f : α → β) (a : V3 α) : V3 β := ⟨f a.x, f a.y, f a.z⟩
def zip (f : α → β → γ) (a : V3 α) (b : V3 β) : V3 γ := ⟨f a.x b.x, f a.y b.y, f a.z b.z⟩
def toList (a : V3 α) : List α := [a.x, a.y, a.z]
def mapM (f : α → Except ε β) (a : V3 α) : Except ε (V3 β) := do
  let x ← f a.x
  let y ← f a.y
  let z ← f a.z
  pure ⟨x, y, z⟩
end V3

namespace M9
def map (f : α → β) (a : M9 α) : M9 β :=
  ⟨f a.xx, f a.xy, f a.xz, f a.yx, f a.yy, f a.yz, f a.zx, f a.zy, f a.zz⟩
def zip (f : α → β → γ) (a : M9 α) (b : M9 β) : M9 γ :=
  ⟨f a.xx b.xx, f a.xy b.xy, f a.xz b.xz, f a.yx b.yx, f a.yy b.yy, f a.yz b.yz,
   f a.zx b.zx, f a.zy b.zy, f a.zz b.zz⟩
def toList (a : M9 α) : List α := [a.xx, a.xy, a.xz, a.yx, a.yy, a.yz, a.zx, a.zy, a.zz]
def mapM (f : α → Except ε β) (a : M9 α) : Except ε (M9 β) := do
  let xx ← f a.xx
  let xy ← f a.xy
  let xz ← f a.xz
  let yx ← f a.yx
  let yy ← f a.yy
  let yz ← f a.yz
  let zx ← f a.zx
  let zy ← f a.zy
  let zz ← f a.zz
  pure ⟨xx, xy, xz, yx, yy, yz, zx, zy, zz⟩
end M9

namespace Val
def ty : Val α → Ty
  | .s _ => .scalar | .v _ => .vector | .t _ => .tensor
def map (f : α → β) : Val α → Val β
  | .s a => .s (f a) | .v a => .v (a.map f) | .t a => .t (a.map f)
def toList : Val α → List α
  | .s a => [a] | .v a => a.toList | .t a => a.toList
/-- component-wise with an effect, components in index order (the `for` loops of the C++) -/
def mapM (f : α → Except ε β) : Val α → Except ε (Val β)
  | .s a => do let x ← f a; pure (.s x)
  | .v a => do let x ← a.mapM f; pure (.v x)
  | .t a => do let x ← a.mapM f; pure (.t x)
/-- `FOR_EACH_DOUBLE2` / `FOR_EACH_STRING2`: `sameType`, then component-wise. -/
def zipM (f : α → α → Except Err β) : Val α → Val α → Except Err (Val β)
  | .s a, .s b => do let x ← f a b; pure (.s x)
  | .v a, .v b => do let x ← (a.zip f b).mapM id; pure (.v x)
  | .t a, .t b => do let x ← (a.zip f b).mapM id; pure (.t x)
  | _, _ => .error .type
end Val

/-! ## Environment -/

/-- A declared symbol: `name` as the parser sees it (`a`, `[a]`, `{a}`), its type, and the index `slot`
of its first `double` in the tag (byte offset `8*slot`). -/
structure Decl where
  name : String
  ty : Ty
  slot : Nat
  deriving DecidableEq, Repr

structure Env where
  decls : List Decl
  /-- the doubles of the tag: `mem k` is the double at byte offset `8*k` -/
  mem : Nat → Rat
  /-- libm functions by their C name (`sqrt sin cos tan asin acos atan sinh cosh tanh exp`) -/
  lib : String → Rat → Except Err Rat
  /-- `pow(a, b)` for a non-integral `b` -/
  powf : Rat → Rat → Except Err Rat
  /-- `M_PI` -/
  piv : Except Err Rat

def Env.find (env : Env) (n : String) : Option Decl := env.decls.find? (·.name = n)

def Env.known (env : Env) (n : String) : Bool := env.decls.any (·.name = n)

/-- `FP*Variable::value()` with a valid value pointer -/
def Env.lookup (env : Env) (n : String) : Except Err (Val Rat) :=
  match env.find n with
  | none => .error .unknownSymbol
  | some d =>
    let m := fun i => env.mem (d.slot + i)
    match d.ty with
    | .scalar => .ok (.s (m 0))
    | .vector => .ok (.v ⟨m 0, m 1, m 2⟩)
    | .tensor => .ok (.t ⟨m 0, m 1, m 2, m 3, m 4, m 5, m 6, m 7, m 8⟩)

/-- `FP*Variable::value()` with the NULL value pointers of the production code
(`FunctionArbitrary::addDouble/addPoint/addTensor`): the scalar, the vector and the tensor variable all
throw a `gError` (fp_scalar.h, fp_vector.h, fp_tensor.h). -/
def Env.lookupNull (env : Env) (n : String) : Except Err (Val Rat) :=
  match env.find n with
  | none => .error .unknownSymbol
  | some _ => .error .nullValue

/-! ## The interpreter `value()` -/

def absRat (x : Rat) : Rat := if x < 0 then -x else x

/-- C `round`: half away from zero -/
def roundRat (x : Rat) : Rat :=
  if x < 0 then -(((-x) + 1/2).floor : Rat) else ((x + 1/2).floor : Rat)

def divRat (a b : Rat) : Except Err Rat := if b = 0 then .error .div0 else .ok (a / b)

/-- exponents beyond this bound are not evaluated by the model (`range`: the model abstains) -/
def maxExp : Nat := 4096

/-- `pow(a, b)`: exact for integral `b` (up to `maxExp`); `pow(0, negative)` is `div0`; the oracle
otherwise. -/
def powRat (env : Env) (a b : Rat) : Except Err Rat :=
  if b.den = 1 then
    if b.num.natAbs > maxExp then .error .range
    else if 0 ≤ b.num then .ok (a ^ b.num.toNat)
    else if a = 0 then .error .div0 else .ok (1 / a ^ (-b.num).toNat)
  else env.powf a b

/-- a C library function of one `double`, by its C name -/
def libFn (env : Env) (cname : String) (x : Rat) : Except Err Rat :=
  if cname = "fabs" then .ok (absRat x)
  else if cname = "round" then .ok (roundRat x)
  else env.lib cname x

def stepRat (x : Rat) : Rat := if x > 0 then 1 else 0
def stpValRat (x : Rat) : Rat := if x > 0 then x else 0

def det9 (a : M9 Rat) : Rat :=
  a.xz * (a.yx * a.zy - a.yy * a.zx) + a.xy * (a.yz * a.zx - a.yx * a.zz) + a.xx * (a.yy * a.zz - a.yz * a.zy)

/-- `Tensor:Vector`: `r[j] += a[i+j*dim]*b[i]` -/
def matVec (a : M9 Rat) (b : V3 Rat) : V3 Rat :=
  ⟨a.xx * b.x + a.xy * b.y + a.xz * b.z,
   a.yx * b.x + a.yy * b.y + a.yz * b.z,
   a.zx * b.x + a.zy * b.y + a.zz * b.z⟩

/-- `FNDot::value`: `r[j+3i] += a[k+3i]*b[j+3k]` -/
def matMul (a b : M9 Rat) : M9 Rat :=
  ⟨a.xx * b.xx + a.xy * b.yx + a.xz * b.zx, a.xx * b.xy + a.xy * b.yy + a.xz * b.zy, a.xx * b.xz + a.xy * b.yz + a.xz * b.zz,
   a.yx * b.xx + a.yy * b.yx + a.yz * b.zx, a.yx * b.xy + a.yy * b.yy + a.yz * b.zy, a.yx * b.xz + a.yy * b.yz + a.yz * b.zz,
   a.zx * b.xx + a.zy * b.yx + a.zz * b.zx, a.zx * b.xy + a.zy * b.yy + a.zz * b.zy, a.zx * b.xz + a.zy * b.yz + a.zz * b.zz⟩

/-- `FNOuter::value`: `r[j+3i] = a[i]*b[j]` -/
def outer3 (a b : V3 Rat) : M9 Rat :=
  ⟨a.x * b.x, a.x * b.y, a.x * b.z, a.y * b.x, a.y * b.y, a.y * b.z, a.z * b.x, a.z * b.y, a.z * b.z⟩

def dot3 (a b : V3 Rat) : Rat := a.x * b.x + a.y * b.y + a.z * b.z

def dot9 (a b : M9 Rat) : Rat :=
  a.xx * b.xx + a.xy * b.xy + a.xz * b.xz + a.yx * b.yx + a.yy * b.yy + a.yz * b.yz +
  a.zx * b.zx + a.zy * b.zy + a.zz * b.zz

/-- the `value()` methods of the binary operators -/
def evalBin (env : Env) (op : BinOp) (va vb : Val Rat) : Except Err (Val Rat) :=
  match op with
  | .add => Val.zipM (fun x y => .ok (x + y)) va vb
  | .sub => Val.zipM (fun x y => .ok (x - y)) va vb
  | .mul =>
    match va, vb with
    | .s a, b => .ok (b.map (a * ·))
    | a, .s b => .ok (a.map (b * ·))
    | a, b => Val.zipM (fun x y => .ok (x * y)) a b
  | .div =>
    match vb with
    | .s b => va.mapM (divRat · b)
    | _ => Val.zipM divRat va vb
  | .contract =>
    match va, vb with
    | .s a, .s b => .ok (.s (a * b))
    | .v a, .v b => .ok (.s (dot3 a b))
    | .t a, .t b => .ok (.s (dot9 a b))
    | .t a, .v b => .ok (.v (matVec a b))
    | _, _ => .error .type
  | .dot =>
    match va, vb with
    | .t a, .t b => .ok (.t (matMul a b))
    | _, _ => .error .type
  | .outer =>
    match va, vb with
    | .v a, .v b => .ok (.t (outer3 a b))
    | _, _ => .error .type
  | .pow =>
    match va, vb with
    | .s a, .s b => do let r ← powRat env a b; pure (.s r)
    | _, _ => .error .type

/-- the `value()` methods of the unary functions -/
def evalFn (env : Env) (f : Fn) (va : Val Rat) : Except Err (Val Rat) :=
  match f with
  | .lib _ c => va.mapM (libFn env c)
  | .det => match va with | .t a => .ok (.s (det9 a)) | _ => .error .type
  | .diagMat => match va with | .v a => .ok (.t ⟨a.x, 0, 0, 0, a.y, 0, 0, 0, a.z⟩) | _ => .error .type
  | .idVec => match va with | .s d => .ok (.v ⟨d, d, d⟩) | _ => .error .type
  | .idMat => match va with | .s d => .ok (.t ⟨d, 0, 0, 0, d, 0, 0, 0, d⟩) | _ => .error .type
  | .Q =>
    match va with
    | .s a => .ok (.s (a * a))
    | .v a => .ok (.s (dot3 a a))
    | .t a => .ok (.s (dot9 a a))
  | .step => .ok (va.map stepRat)
  | .stpVal => .ok (va.map stpValRat)
  | .T => match va with
    | .t a => .ok (.t ⟨a.xx, a.yx, a.zx, a.xy, a.yy, a.zy, a.xz, a.yz, a.zz⟩)
    | _ => .error .type
  | .trace => match va with | .t a => .ok (.s (a.xx + a.yy + a.zz)) | _ => .error .type
  | .unitMat => match va with | .s d => .ok (.t ⟨d, d, d, d, d, d, d, d, d⟩) | _ => .error .type
  | .uran => .error .random
  | .uVecX => match va with | .s d => .ok (.v ⟨d, 0, 0⟩) | _ => .error .type
  | .uVecY => match va with | .s d => .ok (.v ⟨0, d, 0⟩) | _ => .error .type
  | .uVecZ => match va with | .s d => .ok (.v ⟨0, 0, d⟩) | _ => .error .type
  | .xyMat => match va with
    | .t a => .ok (.t ⟨a.xx, a.xy, 0, a.yx, a.yy, 0, 0, 0, 0⟩)
    | _ => .error .type
  | .xCoord => match va with | .v a => .ok (.s a.x) | _ => .error .type
  | .yCoord => match va with | .v a => .ok (.s a.y) | _ => .error .type
  | .zCoord => match va with | .v a => .ok (.s a.z) | _ => .error .type

/-- value of the text of a numeric literal -/
def numVal (text : String) : Except Err Rat :=
  match classifyNumber text.toList with
  | .decimal r => .ok r
  | .exotic => .error .exoticNumber
  | .notNumber => .error .unknownSymbol

/-- `FunctionNode::value()`; `look` is the `value()` of the variables.  Operands are evaluated left to
right (`Variant vara = m_a->value(); Variant varb = m_b->value();`). -/
def eval (env : Env) (look : String → Except Err (Val Rat)) : Tree → Except Err (Val Rat)
  | .sym n => look n
  | .num t => do let r ← numVal t; pure (.s r)
  | .pi => do let r ← env.piv; pure (.s r)
  | .neg a => do let va ← eval env look a; pure (va.map (fun x => -x))
  | .bin op a b => do
    let va ← eval env look a
    let vb ← eval env look b
    evalBin env op va vb
  | .fn f a => do
    let va ← eval env look a
    evalFn env f va

/-- the interpreter: `FunctionParser::value()` -/
def denote (env : Env) (t : Tree) : Except Err (Val Rat) := eval env env.lookup t

/-! ### The types `value()` works with

`value()` checks operand types dynamically, but the type of a result only depends on the types of the
operands; the real code never stops for another reason than a type error (a division by zero gives
`inf`/`nan` and evaluation goes on).  `tyV` is this type discipline, obtained by running the very same
`evalBin`/`evalFn` on all-ones values. -/

def oneEnv : Env :=
  { decls := [], mem := fun _ => 1, lib := fun _ _ => .ok 1, powf := fun _ _ => .ok 1, piv := .ok 1 }

def Val.ones : Ty → Val Rat
  | .scalar => .s 1
  | .vector => .v ⟨1, 1, 1⟩
  | .tensor => .t ⟨1, 1, 1, 1, 1, 1, 1, 1, 1⟩

def tyBinV (op : BinOp) (a b : Ty) : Except Err Ty :=
  (evalBin oneEnv op (Val.ones a) (Val.ones b)).map Val.ty

def tyFnV (f : Fn) (a : Ty) : Except Err Ty :=
  if f = .uran then .ok a else (evalFn oneEnv f (Val.ones a)).map Val.ty

/-- result type of `value()`, or the `type` error it throws -/
def tyV (env : Env) : Tree → Except Err Ty
  | .sym n => match env.find n with | some d => .ok d.ty | none => .error .unknownSymbol
  | .num _ => .ok .scalar
  | .pi => .ok .scalar
  | .neg a => tyV env a
  | .bin op a b => do
    let ta ← tyV env a
    let tb ← tyV env b
    tyBinV op ta tb
  | .fn f a => do
    let ta ← tyV env a
    tyFnV f ta

/-! ## The emitter `toC()` -/

/-- Concrete syntax of the emitted C text, exactly as the `toC()` methods glue it together. -/
inductive CE
  /-- `*((double*) ((char*) particle_tag + off))` -/
  | load (off : Nat)
  /-- a numeric literal, verbatim -/
  | lit (text : List Char)
  | mpi
  /-- `rand()` -/
  | rand0
  | randMax
  /-- `(e)` -/
  | par (e : CE)
  /-- `(double) e` (`sp = true`) or `(double)e` -/
  | castd (sp : Bool) (e : CE)
  /-- `-e` -/
  | neg (e : CE)
  /-- `a op b` with `op ∈ + - * /`; `sp = true` puts a blank on both sides -/
  | bin (op : Char) (sp : Bool) (a b : CE)
  /-- `c > 0 ? a : b` -/
  | gt0 (c a b : CE)
  /-- `f(a)` -/
  | call (f : String) (a : CE)
  /-- `pow(a, b)` -/
  | pow (a b : CE)
  deriving DecidableEq, Repr

def CE.render : CE → List Char
  | .load off => "*((double*) ((char*) particle_tag + ".toList ++ (toString off).toList ++ "))".toList
  | .lit t => t
  | .mpi => "M_PI".toList
  | .rand0 => "rand()".toList
  | .randMax => "RAND_MAX".toList
  | .par e => '(' :: (e.render ++ [')'])
  | .castd sp e => "(double)".toList ++ (if sp then [' '] else []) ++ e.render
  | .neg e => '-' :: e.render
  | .bin op sp a b => a.render ++ (if sp then [' ', op, ' '] else [op]) ++ b.render
  | .gt0 c a b => c.render ++ " > 0 ? ".toList ++ a.render ++ " : ".toList ++ b.render
  | .call f a => f.toList ++ ('(' :: (a.render ++ [')']))
  | .pow a b => "pow(".toList ++ a.render ++ ", ".toList ++ b.render ++ [')']

/-- `x0 op x1 op … ` left-nested, as the C text `x0opx1op…` is read -/
def chain (op : Char) (sp : Bool) : CE → List CE → CE
  | acc, [] => acc
  | acc, x :: xs => chain op sp (.bin op sp acc x) xs

def mulC (a b : CE) : CE := .bin '*' false a b
/-- the zero components of `diagMat idMat uVecX uVecY uVecZ xyMat`: `(0.0)`, a C `double` -/
def zeroC : CE := .par (.lit ['0', '.', '0'])

def detC (a : M9 CE) : CE :=
  .par (.bin '+' false
    (.bin '+' false
      (mulC a.xz (.par (.bin '-' false (mulC a.yx a.zy) (mulC a.yy a.zx))))
      (mulC a.xy (.par (.bin '-' false (mulC a.yz a.zx) (mulC a.yx a.zz)))))
    (mulC a.xx (.par (.bin '-' false (mulC a.yy a.zz) (mulC a.yz a.zy)))))

/-- `FNContraction::toC`, operands of the same type: `(a0*b0+a1*b1+…)` -/
def contractC : List CE → List CE → Except Err CE
  | a :: as, b :: bs => .ok (.par (chain '+' false (mulC a b) (List.zipWith mulC as bs)))
  | _, _ => .error .type

def row3C (a0 a1 a2 : CE) (b : V3 CE) : CE :=
  .par (chain '+' false (mulC a0 b.x) [mulC a1 b.y, mulC a2 b.z])

def matVecC (a : M9 CE) (b : V3 CE) : V3 CE :=
  ⟨row3C a.xx a.xy a.xz b, row3C a.yx a.yy a.yz b, row3C a.zx a.zy a.zz b⟩

/-- one entry of `FNDot::toC`: `(((a*b) + (c*d) + (e*f)))` -/
def dotEntryC (a0 a1 a2 b0 b1 b2 : CE) : CE :=
  .par (.par (chain '+' true (.par (mulC a0 b0)) [.par (mulC a1 b1), .par (mulC a2 b2)]))

def matMulC (a b : M9 CE) : M9 CE :=
  ⟨dotEntryC a.xx a.xy a.xz b.xx b.yx b.zx, dotEntryC a.xx a.xy a.xz b.xy b.yy b.zy, dotEntryC a.xx a.xy a.xz b.xz b.yz b.zz,
   dotEntryC a.yx a.yy a.yz b.xx b.yx b.zx, dotEntryC a.yx a.yy a.yz b.xy b.yy b.zy, dotEntryC a.yx a.yy a.yz b.xz b.yz b.zz,
   dotEntryC a.zx a.zy a.zz b.xx b.yx b.zx, dotEntryC a.zx a.zy a.zz b.xy b.yy b.zy, dotEntryC a.zx a.zy a.zz b.xz b.yz b.zz⟩

def outerC (a b : V3 CE) : M9 CE :=
  let f := fun x y => CE.par (mulC x y)
  ⟨f a.x b.x, f a.x b.y, f a.x b.z, f a.y b.x, f a.y b.y, f a.y b.z, f a.z b.x, f a.z b.y, f a.z b.z⟩

/-- `FNQ::toC`: `(((x)*(x)) + ((y)*(y)) + …)` -/
def qC : List CE → Except Err CE
  | x :: xs =>
    let sq := fun e => CE.par (mulC (.par e) (.par e))
    .ok (.par (chain '+' true (sq x) (xs.map sq)))
  | [] => .error .type

/-- the unrolled `^`: `(a*a*…*a)` (`n ≥ 1` factors) -/
def powChainC (a : CE) (n : Nat) : CE := chain '*' false a (List.replicate (n - 1) a)

/-- the `toC()` methods of the binary operators except `^` -/
def emitBin (op : BinOp) (ca cb : Val CE) : Except Err (Val CE) :=
  match op with
  | .add => Val.zipM (fun x y => .ok (.par (.bin '+' false x y))) ca cb
  | .sub => Val.zipM (fun x y => .ok (.par (.bin '-' false x y))) ca cb
  | .mul =>
    match ca, cb with
    | .s a, b => .ok (b.map fun x => .par (mulC a x))
    | a, .s b => .ok (a.map fun x => .par (mulC b x))
    | a, b => Val.zipM (fun x y => .ok (.par (mulC x y))) a b
  | .div =>
    match cb with
    | .s b => .ok (ca.map fun x => .par (.bin '/' false x b))
    | _ => Val.zipM (fun x y => .ok (.par (.bin '/' false x y))) ca cb
  | .contract =>
    match ca, cb with
    | .v a, .v b => do let r ← contractC a.toList b.toList; pure (.s r)
    | .t a, .t b => do let r ← contractC a.toList b.toList; pure (.s r)
    | .t a, .v b => .ok (.v (matVecC a b))
    | _, _ => .error .type
  | .dot =>
    match ca, cb with
    | .t a, .t b => .ok (.t (matMulC a b))
    | _, _ => .error .type
  | .outer =>
    match ca, cb with
    | .v a, .v b => .ok (.t (outerC a b))
    | _, _ => .error .type
  | .pow => .error .type

/-- the `toC()` methods of the unary functions -/
def emitFn (f : Fn) (ca : Val CE) : Except Err (Val CE) :=
  match f with
  | .lib _ c => .ok (ca.map fun x => .call c x)
  | .det => match ca with | .t a => .ok (.s (detC a)) | _ => .error .type
  | .diagMat => match ca with
    | .v a => .ok (.t ⟨.par a.x, zeroC, zeroC, zeroC, .par a.y, zeroC, zeroC, zeroC, .par a.z⟩)
    | _ => .error .type
  | .idVec => match ca with | .s d => .ok (.v ⟨.par d, .par d, .par d⟩) | _ => .error .type
  | .idMat => match ca with
    | .s d => .ok (.t ⟨.par d, zeroC, zeroC, zeroC, .par d, zeroC, zeroC, zeroC, .par d⟩)
    | _ => .error .type
  | .Q => do let r ← qC ca.toList; pure (.s r)
  | .step => .ok (ca.map fun x => .par (.gt0 (.par x) (.lit ['1', '.', '0']) (.lit ['0', '.', '0'])))
  | .stpVal => .ok (ca.map fun x => .par (.gt0 (.par x) (.par x) (.lit ['0', '.', '0'])))
  | .T => match ca with
    | .t a => .ok (.t ⟨.par a.xx, .par a.yx, .par a.zx, .par a.xy, .par a.yy, .par a.zy,
                       .par a.xz, .par a.yz, .par a.zz⟩)
    | _ => .error .type
  | .trace => match ca with
    | .t a => .ok (.s (.par (chain '+' true a.xx [a.yy, a.zz])))
    | _ => .error .type
  | .unitMat => match ca with
    | .s d => .ok (.t ⟨.par d, .par d, .par d, .par d, .par d, .par d, .par d, .par d, .par d⟩)
    | _ => .error .type
  | .uran => .ok (ca.map fun _ => .par (.bin '/' false (.castd false .rand0) (.castd false .randMax)))
  | .uVecX => match ca with | .s d => .ok (.v ⟨.par d, zeroC, zeroC⟩) | _ => .error .type
  | .uVecY => match ca with | .s d => .ok (.v ⟨zeroC, .par d, zeroC⟩) | _ => .error .type
  | .uVecZ => match ca with | .s d => .ok (.v ⟨zeroC, zeroC, .par d⟩) | _ => .error .type
  | .xyMat => match ca with
    | .t a => .ok (.t ⟨.par a.xx, .par a.xy, zeroC, .par a.yx, .par a.yy, zeroC, zeroC, zeroC, zeroC⟩)
    | _ => .error .type
  | .xCoord => match ca with | .v a => .ok (.s (.par a.x)) | _ => .error .type
  | .yCoord => match ca with | .v a => .ok (.s (.par a.y)) | _ => .error .type
  | .zCoord => match ca with | .v a => .ok (.s (.par a.z)) | _ => .error .type

/-- `FPScalarConstant::toC`: integral values inside the `int` range as `(n.0)`, everything else as
`((double) (text))`.  (A literal is never negative: no sign reaches `strtod`.) -/
def constC (text : String) (r : Rat) : CE :=
  if r.den = 1 ∧ 0 ≤ r.num ∧ r.num < 2147483647 then
    .par (.lit (Nat.toDigits 10 r.num.toNat ++ ['.', '0']))
  else .par (.castd true (.par (.lit text.toList)))

def loadC (slot i : Nat) : CE := .par (.load (8 * (slot + i)))

/-- `FP*Variable::toC()` with the C expressions of `FunctionArbitrary::double2CExpression` etc. -/
def symC (env : Env) (n : String) : Except Err (Val CE) :=
  match env.find n with
  | none => .error .unknownSymbol
  | some d =>
    let m := loadC d.slot
    match d.ty with
    | .scalar => .ok (.s (m 0))
    | .vector => .ok (.v ⟨m 0, m 1, m 2⟩)
    | .tensor => .ok (.t ⟨m 0, m 1, m 2, m 3, m 4, m 5, m 6, m 7, m 8⟩)

/-- `FNPower::toC`, after both operand texts are known to be scalars: `m_b->value()` is tried with the
NULL value pointers of production.  `vb` is its outcome; a `gError` (any variable in the exponent) is
caught and gives `pow(a, b)`.  `opaque`: the exponent needs a libm oracle, the model abstains. -/
def powC (a b : CE) (vb : Except Err (Val Rat)) : Except Err CE :=
  match vb with
  | .error .opaque => .error .opaque
  | .error _ => .ok (.par (.pow a b))
  | .ok (.s x) =>
    if x.den = 1 ∧ -2147483648 < x.num ∧ x.num < 2147483648 then
      if x.num.natAbs > maxExp then .error .range
      else if 0 < x.num then .ok (.par (powChainC a x.num.toNat))
      else if x.num = 0 then .ok (.par (.lit ['1', '.', '0']))
      else .ok (.par (.bin '/' false (.lit ['1', '.', '0']) (.par (powChainC a (-x.num).toNat))))
    else if x = -2147483648 then .error .range
    else .ok (.par (.pow a b))
  | .ok _ => .error .type

/-- `FunctionNode::toC()` -/
def toCE (env : Env) : Tree → Except Err (Val CE)
  | .sym n => symC env n
  | .num t => do let r ← numVal t; pure (.s (constC t r))
  | .pi => .ok (.s (.par (.castd true (.par .mpi))))
  | .neg a => do let ca ← toCE env a; pure (ca.map fun x => .par (.neg x))
  | .bin .pow a b => do
    let ca ← toCE env a
    let cb ← toCE env b
    match ca, cb with
    | .s x, .s y => do let r ← powC x y (eval env env.lookupNull b); pure (.s r)
    | _, _ => .error .type
  | .bin op a b => do
    let ca ← toCE env a
    let cb ← toCE env b
    emitBin op ca cb
  | .fn f a => do
    let ca ← toCE env a
    emitFn f ca

/-- the strings of `FunctionParser::toC()` -/
def toC (env : Env) (t : Tree) : Except Err (List String) := do
  let c ← toCE env t
  pure (c.toList.map fun e => String.ofList e.render)


/-! ## The C reader: what gcc makes of the emitted text (SPECIFICATION, trusted) -/

inductive COp | add | sub | mul | div
  deriving DecidableEq, Repr

/-- abstract syntax of the C-expression subset -/
inductive CX
  /-- a numeric literal; `isInt`: no `.` and no exponent, i.e. of type `int` -/
  | num (isInt : Bool) (r : Rat)
  | mpi
  | rand0
  | randMax
  /-- `*((double*) ((char*) particle_tag + off))` -/
  | load (off : Nat)
  | neg (e : CX)
  /-- `(double) e` -/
  | castd (e : CX)
  | bin (op : COp) (a b : CX)
  /-- `c > z ? a : b` -/
  | ite (c z a b : CX)
  | call1 (f : String) (a : CX)
  | call2 (f : String) (a b : CX)
  deriving DecidableEq, Repr

def skipWs : List Char → List Char
  | [] => []
  | c :: cs => if isSpace c then skipWs cs else c :: cs

def isIdChar (c : Char) : Bool := c.isAlphanum || c = '_'

/-- longest prefix satisfying `p`, and the rest -/
def spanP (p : Char → Bool) : List Char → List Char × List Char
  | [] => ([], [])
  | c :: cs => if p c then let (a, r) := spanP p cs; (c :: a, r) else ([], c :: cs)

def loadPrefix : List Char := "((double*) ((char*) particle_tag + ".toList

/-- strip the literal `pre` from the front -/
def expect (pre : List Char) (cs : List Char) : Except Err (List Char) :=
  if pre.isPrefixOf cs then .ok (cs.drop pre.length) else .error .cSyntax

/-- the nonterminals of the reader; the `…Loop` ones carry the left operand parsed so far -/
inductive Task
  | cond | add | addLoop (l : CX) | mul | mulLoop (l : CX) | unary | primary

abbrev PRes := Except Err (CX × List Char)

/-! Recursive-descent reader with the C precedences
`?:`  <  `>`  <  `+ -`  <  `* /`  <  unary `-`, cast, `*`  <  primary; binary operators associate to the
left.  Every function returns the tree and the unread rest.  The recursion is open (`rec` = the reader
with one unit of fuel less) so that the steps can be reasoned about separately. -/

/-- `add [ '>' add '?' cond ':' cond ]` -/
def stepCond (rec : Task → List Char → PRes) (cs : List Char) : PRes := do
  let (c, r) ← rec .add cs
  match skipWs r with
  | '>' :: r1 => do
    let (z, r2) ← rec .add r1
    match skipWs r2 with
    | '?' :: r3 => do
      let (a, r4) ← rec .cond r3
      match skipWs r4 with
      | ':' :: r5 => do
        let (b, r6) ← rec .cond r5
        pure (.ite c z a b, r6)
      | _ => .error .cSyntax
    | _ => .error .cSyntax
  | _ => pure (c, r)

def stepAdd (rec : Task → List Char → PRes) (cs : List Char) : PRes := do
  let (l, r) ← rec .mul cs
  rec (.addLoop l) r

/-- `++` and `--` are the increment / decrement tokens: rejected -/
def stepAddLoop (rec : Task → List Char → PRes) (l : CX) (cs : List Char) : PRes :=
  match skipWs cs with
  | '+' :: r =>
    if r.head? = some '+' then .error .cSyntax
    else do
      let (x, r') ← rec .mul r
      rec (.addLoop (.bin .add l x)) r'
  | '-' :: r =>
    if r.head? = some '-' then .error .cSyntax
    else do
      let (x, r') ← rec .mul r
      rec (.addLoop (.bin .sub l x)) r'
  | _ => pure (l, cs)

def stepMul (rec : Task → List Char → PRes) (cs : List Char) : PRes := do
  let (l, r) ← rec .unary cs
  rec (.mulLoop l) r

/-- `/*` and `//` start a comment: rejected -/
def stepMulLoop (rec : Task → List Char → PRes) (l : CX) (cs : List Char) : PRes :=
  match skipWs cs with
  | '*' :: r => do
    let (x, r') ← rec .unary r
    rec (.mulLoop (.bin .mul l x)) r'
  | '/' :: r =>
    if r.head? = some '*' || r.head? = some '/' then .error .cSyntax
    else do
      let (x, r') ← rec .unary r
      rec (.mulLoop (.bin .div l x)) r'
  | _ => pure (l, cs)

def stepUnary (rec : Task → List Char → PRes) (cs : List Char) : PRes :=
  match skipWs cs with
  | '-' :: r =>
    -- `--` would be the decrement operator
    if (skipWs r).head? = some '-' then .error .cSyntax
    else do
      let (x, r') ← rec .unary r
      pure (.neg x, r')
  | '*' :: r => do
    let r1 ← expect loadPrefix r
    let (ds, r2) := spanP Char.isDigit r1
    if ds.isEmpty then .error .cSyntax
    else do
      let r3 ← expect "))".toList r2
      pure (.load (digitsVal ds), r3)
  | '(' :: r =>
    if "double)".toList.isPrefixOf r then do
      let (x, r') ← rec .unary (r.drop 7)
      pure (.castd x, r')
    else rec .primary cs
  | _ => rec .primary cs

def stepPrimary (rec : Task → List Char → PRes) (cs : List Char) : PRes :=
  match skipWs cs with
  | '(' :: r => do
    let (e, r') ← rec .cond r
    match skipWs r' with
    | ')' :: r'' => pure (e, r'')
    | _ => .error .cSyntax
  | c :: r =>
    if c.isDigit || c = '.' then
      let (txt, rest) := spanP isNumChar (c :: r)
      match decimalVal txt with
      | some q => pure (.num (txt.all Char.isDigit) q, rest)
      | none => .error .cSyntax
    else if c.isAlpha || c = '_' then
      let (idc, rest) := spanP isIdChar (c :: r)
      let name := String.ofList idc
      match rest with
      | '(' :: r1 =>
        if name = "rand" then
          match skipWs r1 with
          | ')' :: r2 => pure (.rand0, r2)
          | _ => .error .cSyntax
        else do
          let (a, r2) ← rec .cond r1
          match skipWs r2 with
          | ')' :: r3 => pure (.call1 name a, r3)
          | ',' :: r3 => do
            let (b, r4) ← rec .cond r3
            match skipWs r4 with
            | ')' :: r5 => pure (.call2 name a b, r5)
            | _ => .error .cSyntax
          | _ => .error .cSyntax
      | _ =>
        if name = "M_PI" then pure (.mpi, rest)
        else if name = "RAND_MAX" then pure (.randMax, rest)
        else .error .cSyntax
    else .error .cSyntax
  | [] => .error .cSyntax

def runStep (rec : Task → List Char → PRes) : Task → List Char → PRes
  | .cond, cs => stepCond rec cs
  | .add, cs => stepAdd rec cs
  | .addLoop l, cs => stepAddLoop rec l cs
  | .mul, cs => stepMul rec cs
  | .mulLoop l, cs => stepMulLoop rec l cs
  | .unary, cs => stepUnary rec cs
  | .primary, cs => stepPrimary rec cs

/-- the reader with fuel -/
def run : Nat → Task → List Char → PRes
  | 0 => fun _ _ => .error .cSyntax
  | n+1 => runStep (run n)

/-- read a complete C expression -/
def parseCL (cs : List Char) : Except Err CX := do
  let (e, r) ← run (8 * cs.length + 16) .cond cs
  if (skipWs r).isEmpty then pure e else .error .cSyntax

def parseC (s : String) : Except Err CX := parseCL s.toList

/-- the static C type: `true` = `int`, `false` = `double` -/
def CX.isInt : CX → Bool
  | .num i _ => i
  | .mpi => false
  | .rand0 => true
  | .randMax => true
  | .load _ => false
  | .neg e => e.isInt
  | .castd _ => false
  | .bin _ a b => a.isInt && b.isInt
  | .ite _ _ a b => a.isInt && b.isInt
  | .call1 _ _ => false
  | .call2 _ _ _ => false

/-- no division whose two operands are both of type `int` occurs anywhere in the expression -/
def CX.noIntDiv : CX → Bool
  | .num _ _ => true
  | .mpi => true
  | .rand0 => true
  | .randMax => true
  | .load _ => true
  | .neg e => e.noIntDiv
  | .castd e => e.noIntDiv
  | .bin op a b => a.noIntDiv && b.noIntDiv && !(decide (op = .div) && a.isInt && b.isInt)
  | .ite c z a b => c.noIntDiv && z.noIntDiv && a.noIntDiv && b.noIntDiv
  | .call1 _ a => a.noIntDiv
  | .call2 _ a b => a.noIntDiv && b.noIntDiv

/-- Value of a C expression.  `int / int` is the truncating division: exact quotients are returned, a
truncating one is reported as `intTrunc` (the value would differ from the real quotient).  Only the
selected branch of `?:` is evaluated. -/
def evalCX (env : Env) : CX → Except Err Rat
  | .num _ r => .ok r
  | .mpi => env.piv
  | .rand0 => .error .random
  | .randMax => .ok 2147483647
  | .load off => if off % 8 = 0 then .ok (env.mem (off / 8)) else .error .cSyntax
  | .neg e => do let x ← evalCX env e; pure (-x)
  | .castd e => evalCX env e
  | .bin op a b => do
    let x ← evalCX env a
    let y ← evalCX env b
    match op with
    | .add => pure (x + y)
    | .sub => pure (x - y)
    | .mul => pure (x * y)
    | .div =>
      if y = 0 then (if a.isInt && b.isInt then .error .intDiv0 else .error .div0)
      else if a.isInt && b.isInt && (x / y).den != 1 then .error .intTrunc
      else pure (x / y)
  | .ite c z a b => do
    let x ← evalCX env c
    let y ← evalCX env z
    if x > y then evalCX env a else evalCX env b
  | .call1 f a => do
    let x ← evalCX env a
    libFn env f x
  | .call2 f a b => do
    let x ← evalCX env a
    let y ← evalCX env b
    if f = "pow" then powRat env x y else .error .cSyntax

/-! ### From the emitter's concrete syntax to the abstract syntax

`CE.abs e` is what `parseC` reads from `e.render` (theorem `parseCL_render` in `ExprCLemmas`). -/

def litAbs (text : List Char) : CX :=
  let t := text.dropWhile isSpace
  .num (t.all Char.isDigit) ((decimalVal t).getD 0)

def copOf (c : Char) : COp :=
  if c = '+' then .add else if c = '-' then .sub else if c = '*' then .mul else .div

def CE.abs : CE → CX
  | .load off => .load off
  | .lit t => litAbs t
  | .mpi => .mpi
  | .rand0 => .rand0
  | .randMax => .randMax
  | .par e => e.abs
  | .castd _ e => .castd e.abs
  | .neg e => .neg e.abs
  | .bin op _ a b => .bin (copOf op) a.abs b.abs
  | .gt0 c a b => .ite c.abs (.num true 0) a.abs b.abs
  | .call f a => .call1 f a.abs
  | .pow a b => .call2 "pow" a.abs b.abs

/-- `evalC ∘ parseC`: the value gcc's code computes for an emitted text -/
def evalC (env : Env) (s : String) : Except Err Rat := do
  let e ← parseC s
  evalCX env e

/-! ## Line protocol -/

def showErr (e : Err) : String := "err:" ++ e.kind

/-- driver environment: the libm oracles decline -/
def driverEnv (decls : List Decl) (mem : List Rat) : Env :=
  { decls := decls
    mem := fun k => mem.getD k 0
    lib := fun _ _ => .error .opaque
    powf := fun _ _ => .error .opaque
    piv := .error .opaque }

def showVals (v : Val Rat) : String := " ".intercalate (v.toList.map showRat)

/-- answer to one `expr` request -/
def answer (decls : List Decl) (mem : List Rat) (text : String) : List String :=
  let env := driverEnv decls mem
  match parse (decls.map (·.name)) text with
  | .error e => ["expr " ++ text, "parse " ++ showErr e, "end"]
  | .ok t =>
    let cLines : List String :=
      match toCE env t with
      | .error .type => ["type err"]
      | .error e => ["type " ++ showErr e]
      | .ok c =>
        let strs := c.toList.map fun e => String.ofList e.render
        let compiled := "compiled " ++ " ".intercalate (c.toList.map fun e =>
          match evalC env (String.ofList e.render) with
          | .ok r => showRat r
          | .error e => showErr e)
        let selfcheck :=
          if c.toList.all (fun e => match parseCL e.render with | .ok x => decide (x = e.abs) | .error _ => false) then [] else ["selfcheck abs-mismatch"]
        ["type " ++ c.ty.name, "toC " ++ " | ".intercalate strs, compiled] ++ selfcheck
    let vLine :=
      match tyV env t with
      | .error _ => "value err"
      | .ok _ =>
        match denote env t with
        | .ok v => "value " ++ showVals v
        | .error .type => "value err"
        | .error e => "value " ++ showErr e
    ["expr " ++ text, "parse ok " ++ t.show] ++ cLines ++ [vLine, "end"]

structure DState where
  decls : List Decl := []
  mem : List Rat := []
  out : List String := []

def declare (st : DState) (kind name : String) (vals : List String) : DState :=
  let bad := { st with out := st.out ++ ["bad var line"] }
  match vals.mapM parseRat with
  | none => bad
  | some rs =>
    let slot := st.mem.length
    let mk := fun (nm : String) (ty : Ty) =>
      if rs.length = ty.size then
        { st with decls := st.decls ++ [⟨nm, ty, slot⟩], mem := st.mem ++ rs }
      else bad
    match kind with
    | "s" => mk name .scalar
    | "v" => mk ("[" ++ name ++ "]") .vector
    | "t" => mk ("{" ++ name ++ "}") .tensor
    | _ => bad

def stepLine (st : DState) (line : String) : DState :=
  if line = "reset" then { st with decls := [], mem := [] }
  else if line.startsWith "expr" then
    let text := (line.drop 5).toString
    { st with out := st.out ++ answer st.decls st.mem text }
  else
    match words line with
    | "var" :: kind :: name :: vals => declare st kind name vals
    | [] => st
    | _ => { st with out := st.out ++ ["bad line: " ++ line] }

/-- `symdrv` model `expr`: see the protocol in `/verif/harness/h_parser.cpp`. -/
def driver (lines : List String) : List String :=
  (lines.foldl stepLine {}).out

end Sympler.Expr
