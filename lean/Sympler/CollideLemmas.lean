import Sympler.Collide
/-! Lemmas about `Sympler.Collide` up to the loop invariant of `doCollision` (core Lean only). -/
namespace Sympler.Collide
open V3

/-! ### `Fin 3` -/

theorem fin3_cases {P : Fin 3 → Prop} (h0 : P 0) (h1 : P 1) (h2 : P 2) : ∀ d, P d
  | 0 => h0
  | 1 => h1
  | 2 => h2

theorem all3_iff (f : Fin 3 → Bool) : all3 f = true ↔ ∀ d, f d = true := by
  simp only [all3, Bool.and_eq_true]
  exact ⟨fun h => fin3_cases h.1.1 h.1.2 h.2, fun h => ⟨⟨h 0, h 1⟩, h 2⟩⟩

theorem fin3_cyc (d k : Fin 3) : d = k ∨ d + 1 = k ∨ d + 2 = k := by revert d k; decide

theorem fin3_add (d : Fin 3) :
    d + 1 ≠ d ∧ d + 2 ≠ d ∧ d + 1 ≠ d + 2 ∧ d + 1 + 1 = d + 2 ∧ d + 1 + 2 = d ∧ d + 2 + 1 = d ∧ d + 2 + 2 = d + 1 := by
  revert d; decide

/-! ### arithmetic helpers (products are not linear) -/

theorem mul_neg_of_pos_neg {a b : Rat} (ha : 0 < a) (hb : b < 0) : a * b < 0 :=
  (Rat.mul_neg_iff_of_pos_left ha).mpr hb

theorem int_lt_of_mul_lt {a b : Int} {w : Rat} (hw : 0 < w) (h : (a : Rat) * w < (b : Rat) * w) : a < b :=
  Rat.intCast_lt_intCast.mp ((Rat.mul_lt_mul_right hw).mp h)

/-- `absq x = |x|` -/
def absq (x : Rat) : Rat := if 0 ≤ x then x else -x

theorem absq_of_nonneg {x : Rat} (h : 0 ≤ x) : absq x = x := if_pos h
theorem absq_of_neg {x : Rat} (h : ¬ 0 ≤ x) : absq x = -x := if_neg h
theorem absq_nonneg (x : Rat) : 0 ≤ absq x := by unfold absq; split <;> grind
theorem absq_neg (x : Rat) : absq (-x) = absq x := by unfold absq; split <;> split <;> grind

theorem mul_abs_bound {t x a : Rat} (ht : 0 ≤ t) (hx : x = a ∨ x = -a) :
    - (t * absq a) ≤ t * x ∧ t * x ≤ t * absq a := by
  have h : -absq a ≤ x ∧ x ≤ absq a := by unfold absq; split <;> grind
  have := Rat.mul_le_mul_of_nonneg_left h.1 ht
  have := Rat.mul_le_mul_of_nonneg_left h.2 ht
  grind

theorem widen {x b δ : Rat} (hδ : 0 ≤ δ) (h : 0 ≤ x ∧ x ≤ b) : -δ ≤ x ∧ x ≤ b + δ := by grind

theorem cross_time {x v T : Rat} (hx : 0 < x) (hT : 0 ≤ T) (h : x ≤ T * v) :
    ∃ s, 0 < v ∧ s * v = x ∧ 0 < s ∧ s ≤ T ∧ (x < T * v → s < T) := by
  have hv : 0 < v := Rat.not_le.mp fun hn => by
    have := Rat.mul_le_mul_of_nonneg_left hn hT
    grind
  obtain ⟨s, rfl⟩ : ∃ s, s * v = x := ⟨x / v, Rat.div_mul_cancel (Rat.ne_of_gt hv)⟩
  exact ⟨s, hv, rfl, (Rat.mul_pos_iff_of_pos_right hv).mp hx, Rat.le_of_mul_le_mul_right h hv,
    (Rat.mul_lt_mul_right hv).mp⟩

/-! ### component rules -/

@[simp] theorem add_apply (a b : V3) (d : Fin 3) : add a b d = a d + b d := rfl
@[simp] theorem neg_apply (a : V3) (d : Fin 3) : neg a d = - a d := rfl
@[simp] theorem smul_apply (s : Rat) (a : V3) (d : Fin 3) : smul s a d = s * a d := rfl
@[simp] theorem unit_apply (d k : Fin 3) (s : Rat) : unit d s k = if k = d then s else 0 := rfl

@[simp] theorem mk_eta (a : V3) : mk (a 0) (a 1) (a 2) = a := by
  funext d
  induction d using fin3_cases <;> rfl

theorem dot_cyc (d : Fin 3) (a b : V3) : dot a b = a d * b d + a (d + 1) * b (d + 1) + a (d + 2) * b (d + 2) := by
  induction d using fin3_cases <;> simp [dot] <;> grind

theorem dot_unit_left (d : Fin 3) (s : Rat) (v : V3) : dot (unit d s) v = s * v d := by
  simp [dot_cyc d, (fin3_add d).1, (fin3_add d).2.1, Rat.add_zero]

theorem dot_unit_right (d : Fin 3) (s : Rat) (v : V3) : dot v (unit d s) = v d * s := by
  simp [dot_cyc d, (fin3_add d).1, (fin3_add d).2.1, Rat.add_zero]

/-! ### reflection on an axis-aligned face -/

/-- ANY in-plane unit vector `t` will do: in the directions `d+1`, `d+2` the vectors `t` and `n × t = s (−t_{d+2}, t_{d+1})` are an
orthonormal basis, so the two projections add up to the in-plane part of `v`. -/
theorem mirror_face (eps : Rat) (v h t : V3) (d : Fin 3) (s : Rat) (hs : s * s = 1) (ht0 : t d = 0) (ht : dot t t = 1)
    (k : Fin 3) : (mirrorReflect eps v h (unit d s) t).2 k = if k = d then - v k else v k := by
  obtain ⟨h1, h2, _, e1, e2, e3, e4⟩ := fin3_add d
  rw [dot_cyc d] at ht
  rcases fin3_cyc d k with rfl | rfl | rfl <;>
    simp [mirrorReflect, dot_cyc d, cross, h1, h2, e1, e2, e3, e4, ht0] <;> grind

theorem mirror_axis (eps : Rat) (v h : V3) (d d' : Fin 3) (s s' : Rat) (hs : s * s = 1) (hs' : s' * s' = 1)
    (hd : d' ≠ d) (k : Fin 3) :
    (mirrorReflect eps v h (unit d s) (unit d' s')).2 k = (if k = d then - v k else v k) ∧
    (mirrorReflect eps v h (unit d s) (unit d' s')).1 k = h k + eps * (if k = d then s else 0) :=
  ⟨mirror_face eps v h _ d s hs (by simp [Ne.symm hd]) (by simp [dot_unit_left, hs']) k, rfl⟩

theorem bounceBack_axis (eps : Rat) (v h n t : V3) (k : Fin 3) :
    (bounceBackReflect eps v h n t).2 k = - v k ∧ (bounceBackReflect eps v h n t).1 k = h k + eps * n k :=
  ⟨rfl, rfl⟩

def Wall.sgn (w : Wall) : Rat := if w.high then -1 else 1
/-- coordinate of the face -/
def Wall.plane (c : Cfg) (w : Wall) : Rat := if w.high then c.box w.d else 0

theorem sgn_sq (w : Wall) : w.sgn * w.sgn = 1 := by unfold Wall.sgn; split <;> decide +kernel

theorem normal_apply (w : Wall) (k : Fin 3) : w.normal k = if k = w.d then w.sgn else 0 := rfl

theorem nDotR_eq (c : Cfg) (w : Wall) : w.nDotR c = w.sgn * w.plane c := by
  unfold Wall.nDotR Wall.sgn Wall.plane; split <;> simp [Rat.neg_mul]

theorem reflect_spec (rf : Refl) (eps : Rat) (v h : V3) (w : Wall) (k : Fin 3) :
    (reflect rf eps v h w.normal w.inPlane).1 k = h k + eps * (if k = w.d then w.sgn else 0) ∧
    (reflect rf eps v h w.normal w.inPlane).2 k =
      (match rf with
       | .mirror => if k = w.d then - v k else v k
       | .bounceBack => - v k) := by
  cases rf
  · exact (mirror_axis eps v h w.d (w.d + 1) w.sgn 1 (sgn_sq w) (Rat.one_mul 1) (fin3_add w.d).1 k).symm
  · exact (bounceBack_axis eps v h w.normal w.inPlane k).symm

theorem reflect_vel_sign (rf : Refl) (eps : Rat) (v h : V3) (w : Wall) (k : Fin 3) :
    (reflect rf eps v h w.normal w.inPlane).2 k = v k ∨ (reflect rf eps v h w.normal w.inPlane).2 k = - v k := by
  rw [(reflect_spec rf eps v h w k).2]
  cases rf <;> grind

/-! ### `hitTime`, `wallHit` -/

section
variable {c : Cfg} {w : Wall} {r v : V3} {dtl t : Rat}

theorem hitTime_eq_some_iff : hitTime c w r v = some t ↔ v w.d ≠ 0 ∧ r w.d + t * v w.d = w.plane c ∧ 0 ≤ t := by
  obtain ⟨d, hi⟩ := w
  cases hi <;> simp [hitTime, Wall.normal, Wall.nDotR, Wall.plane, dot_unit_left] <;> grind

theorem wallHit_eq_some_iff {h : V3} :
    wallHit c w r v dtl = some (t, h) ↔
      hitTime c w r v = some t ∧ 0 < t ∧ t ≤ dtl ∧ h = add r (smul t v) ∧ inFace c w h = true := by
  unfold wallHit
  cases hitTime c w r v with
  | none => simp
  | some t' =>
    simp only [mk_eta, Option.some.injEq]
    grind

theorem inFace_iff (h : V3) :
    inFace c w h = true ↔ ∀ k, k ≠ w.d → c.per k = false → - c.delta ≤ h k ∧ h k ≤ c.box k + c.delta := by
  have : inFace c w h = all3 fun k => k = w.d || c.per k ||
      (decide (- c.delta ≤ h k) && decide (h k ≤ c.box k + c.delta)) := rfl
  rw [this, all3_iff]
  refine forall_congr' fun k => ?_
  cases c.per k <;> simp [Classical.or_iff_not_imp_left]

/-! ### `checkForHit` -/

/-- `best` is what `Cell::checkForHit` holds after the walls `seen`: nothing if none of them reports a hit, otherwise a
reported hit that is the earliest of all reported ones -/
def BestOf (c : Cfg) (r v : V3) (dtl : Rat) (seen : List Wall) : Option Hit → Prop
  | none => ∀ w ∈ seen, wallHit c w r v dtl = none
  | some hit => hit.wall ∈ seen ∧ wallHit c hit.wall r v dtl = some (hit.t, hit.pos) ∧
      ∀ w ∈ seen, ∀ t p, wallHit c w r v dtl = some (t, p) → hit.t ≤ t

theorem bestOf_better {seen : List Wall} {best : Option Hit} (w : Wall)
    (hb : BestOf c r v dtl seen best) : BestOf c r v dtl (seen ++ [w]) (better c r v dtl best w) := by
  unfold better
  cases hw : wallHit c w r v dtl with
  | none => cases best <;> simp only [BestOf, List.mem_append, List.mem_singleton] at hb ⊢ <;> grind
  | some th =>
    cases best with
    | none => simp only [BestOf, List.mem_append, List.mem_singleton] at hb ⊢; grind
    | some b => dsimp only; split <;> simp only [BestOf, List.mem_append, List.mem_singleton] at hb ⊢ <;> grind

theorem bestOf_foldl (ws : List Wall) : ∀ (seen : List Wall) (best : Option Hit), BestOf c r v dtl seen best →
    BestOf c r v dtl (seen ++ ws) (ws.foldl (better c r v dtl) best) := by
  induction ws with
  | nil => intro seen best hb; rwa [List.append_nil]
  | cons w ws ih =>
    intro seen best hb
    have := ih _ _ (bestOf_better w hb)
    rwa [List.append_assoc] at this

theorem checkForHit_spec (ws : List Wall) : BestOf c r v dtl ws (checkForHit c ws r v dtl) :=
  bestOf_foldl ws [] none fun _ hw => nomatch hw

theorem checkForHit_none {ws : List Wall} (h : checkForHit c ws r v dtl = none) :
    ∀ w ∈ ws, wallHit c w r v dtl = none :=
  show BestOf c r v dtl ws none from h ▸ checkForHit_spec ws

theorem checkForHit_some {ws : List Wall} {hit : Hit} (h : checkForHit c ws r v dtl = some hit) :
    hit.wall ∈ ws ∧ wallHit c hit.wall r v dtl = some (hit.t, hit.pos) ∧
    ∀ w ∈ ws, ∀ t p, wallHit c w r v dtl = some (t, p) → hit.t ≤ t :=
  show BestOf c r v dtl ws (some hit) from h ▸ checkForHit_spec ws

end

theorem mem_allWalls (w : Wall) : w ∈ allWalls := by
  obtain ⟨d, hi⟩ := w
  induction d using fin3_cases <;> cases hi <;> decide

theorem mem_walls {c : Cfg} {cell : I3} {w : Wall} : w ∈ walls c cell ↔ known c cell w = true := by
  simp [walls, mem_allWalls]

theorem per_of_mem_walls {c : Cfg} {cell : I3} {w : Wall} (h : w ∈ walls c cell) : c.per w.d = false := by
  have := mem_walls.mp h
  unfold known at this
  cases hp : c.per w.d <;> simp_all

/-! ### predicates used by the theorems of `Props/C08.lean` -/

/-- well-formed scenario: positive box, at least one cell per direction, positive displacement `eps`,
tolerances `delta = −c_wt_dist_eps ≥ 0`, `geps = g_geom_eps ≥ 0` -/
structure CfgOK (c : Cfg) : Prop where
  box_pos : ∀ d, 0 < c.box d
  ncell_pos : ∀ d, 0 < c.ncell d
  eps_pos : 0 < c.eps
  delta_nonneg : 0 ≤ c.delta
  geps_nonneg : 0 ≤ c.geps

/-- strictly between the two walls in every non-periodic direction -/
def InsideW (c : Cfg) (r : V3) : Prop := ∀ d, c.per d = false → 0 < r d ∧ r d < c.box d

/-- the particle is in the list of an existing cell and inside it up to `g_geom_eps`
(what `checkNewPosition` guarantees for a particle it keeps) -/
def CellOK (c : Cfg) (p : PState) : Prop :=
  ∀ d, 0 ≤ p.cell d ∧ p.cell d < c.ncell d ∧
    c1 c p.cell d - c.geps ≤ p.r d ∧ p.r d < c2 c p.cell d + c.geps

/-- per-step displacement below one cell: `|v_d| dt + 100 eps + geps < width_d`; `100 eps` because each of the at most 100
reflections of a step (`Gen.Collide.maxPasses`) puts the particle `eps` off the wall (`LInv.disp`) -/
def SpeedOK (c : Cfg) (dt : Rat) (v : V3) : Prop :=
  ∀ d, absq (v d) * dt + 100 * c.eps + c.geps < c.w d

/-- the hit is not on an edge/corner of the box: strictly inside the face in the other non-periodic directions -/
def NoEdge (c : Cfg) (h : Hit) : Prop :=
  ∀ k, k ≠ h.wall.d → c.per k = false → 0 < h.pos k ∧ h.pos k < c.box k

def Good (c : Cfg) (p : PState) : Prop := InsideW c p.r ∧ CellOK c p

/-- invariant of the loop of `Cell::doCollision` (`p0` = particle at the start of the step) -/
structure LInv (c : Cfg) (dt : Rat) (p0 : PState) (st : LoopSt) : Prop where
  dt_nonneg : 0 ≤ st.dtLeft
  dt_le : st.dtLeft ≤ dt
  inside : InsideW c st.r
  vsign : ∀ d, st.v d = p0.v d ∨ st.v d = - p0.v d
  disp : ∀ d, -(absq (p0.v d) * (dt - st.dtLeft) + (st.trace.length : Rat) * c.eps) ≤ st.r d - p0.r d ∧
              st.r d - p0.r d ≤ absq (p0.v d) * (dt - st.dtLeft) + (st.trace.length : Rat) * c.eps

section
variable {c : Cfg} (ok : CfgOK c)
include ok

theorem ncellR_pos (d : Fin 3) : (0 : Rat) < (c.ncell d : Rat) := Rat.intCast_pos.mpr (ok.ncell_pos d)

theorem ncell_mul_w (d : Fin 3) : (c.ncell d : Rat) * c.w d = c.box d := by
  rw [Rat.mul_comm]
  exact Rat.div_mul_cancel (Rat.ne_of_gt (ncellR_pos ok d))

theorem w_pos (d : Fin 3) : 0 < c.w d := Rat.mul_pos (ok.box_pos d) (Rat.inv_pos.mpr (ncellR_pos ok d))

theorem w_le_box (d : Fin 3) : c.w d ≤ c.box d := by
  have h1 : (1 : Rat) ≤ (c.ncell d : Rat) := Rat.intCast_le_intCast.mpr (ok.ncell_pos d)
  have := Rat.mul_le_mul_of_nonneg_right h1 (Rat.le_of_lt (w_pos ok d))
  rwa [Rat.one_mul, ncell_mul_w ok] at this

theorem eps_lt_box {dt : Rat} {v : V3} (hdt : 0 ≤ dt) (sp : SpeedOK c dt v) (d : Fin 3) : c.eps < c.box d := by
  have := sp d
  have := w_le_box ok d
  have := Rat.mul_nonneg (absq_nonneg (v d)) hdt
  have := ok.eps_pos
  have := ok.geps_nonneg
  grind

end

/-! ### candidate crossings: plane reached within `(0, dtLeft]` in a non-periodic direction -/

def candTime (c : Cfg) (r v : V3) (dtl : Rat) (w : Wall) : Option Rat :=
  if c.per w.d then none
  else match hitTime c w r v with
    | none => none
    | some t => if 0 < t ∧ t ≤ dtl then some t else none

section
variable {c : Cfg} {r v : V3} {dtl : Rat}

theorem candTime_eq_some_iff {w : Wall} {t : Rat} :
    candTime c r v dtl w = some t ↔ c.per w.d = false ∧ hitTime c w r v = some t ∧ 0 < t ∧ t ≤ dtl := by
  unfold candTime
  cases c.per w.d <;> cases hitTime c w r v <;> simp
  grind

theorem cand_of_outside {T : Rat} {k : Fin 3} (hp : c.per k = false)
    (hin : 0 < r k ∧ r k < c.box k) (hT : 0 ≤ T) (hTd : T ≤ dtl)
    (hout : ¬ (0 < r k + T * v k ∧ r k + T * v k < c.box k)) :
    ∃ w s, candTime c r v dtl w = some s ∧ s ≤ T ∧ (¬ (0 ≤ r k + T * v k ∧ r k + T * v k ≤ c.box k) → s < T) := by
  by_cases hlow : r k + T * v k ≤ 0
  · obtain ⟨s, hv, hs, hs0, hsT, hlt⟩ := cross_time (v := - v k) hin.1 hT (by grind)
    refine ⟨⟨k, false⟩, s, candTime_eq_some_iff.mpr ⟨hp, hitTime_eq_some_iff.mpr ?_, hs0, Rat.le_trans hsT hTd⟩,
      hsT, fun h => hlt (by grind)⟩
    simp [Wall.plane]; grind
  · obtain ⟨s, hv, hs, hs0, hsT, hlt⟩ := cross_time (x := c.box k - r k) (v := v k) (by grind) hT (by grind)
    refine ⟨⟨k, true⟩, s, candTime_eq_some_iff.mpr ⟨hp, hitTime_eq_some_iff.mpr ?_, hs0, Rat.le_trans hsT hTd⟩,
      hsT, fun h => hlt (by grind)⟩
    simp [Wall.plane]; grind

/-- at the EARLIEST candidate crossing the particle is still in the closed box, so the face test accepts it -/
theorem inFace_at_min {w : Wall} {t : Rat} (ins : InsideW c r) (hc : candTime c r v dtl w = some t)
    (hmin : ∀ b s, candTime c r v dtl b = some s → t ≤ s) (k : Fin 3) (hp : c.per k = false) :
    0 ≤ r k + t * v k ∧ r k + t * v k ≤ c.box k := by
  obtain ⟨_, _, h0, h1⟩ := candTime_eq_some_iff.mp hc
  apply Classical.byContradiction
  intro hn
  obtain ⟨b, s, hb, _, hlt⟩ := cand_of_outside hp (ins k hp) (Rat.le_of_lt h0) h1 fun h => hn ⟨Rat.le_of_lt h.1, Rat.le_of_lt h.2⟩
  exact Rat.not_le.mpr (hlt hn) (hmin b s hb)

end

/-! ### walls that can be reached within the step are known to the cell -/

theorem reach_bound {A dt dtl t len eps geps w r r0 tv : Rat} (hA : 0 ≤ A) (ht : t ≤ dtl) (heps : 0 ≤ eps) (hlen : len ≤ 100)
    (hx : -(A * (dt - dtl) + len * eps) ≤ r - r0 ∧ r - r0 ≤ A * (dt - dtl) + len * eps)
    (htv : -(t * A) ≤ tv ∧ tv ≤ t * A) (hsp : A * dt + 100 * eps + geps < w) :
    -(w - geps) < r + tv - r0 ∧ r + tv - r0 < w - geps := by
  have := Rat.mul_le_mul_of_nonneg_right ht hA
  have := Rat.mul_le_mul_of_nonneg_right hlen heps
  grind

theorem near_cell {w geps r0 x : Rat} {ci : Int} (lo : (ci : Rat) * w - geps ≤ r0) (hi : r0 < ((ci + 1 : Int) : Rat) * w + geps)
    (hd : -(w - geps) < x - r0 ∧ x - r0 < w - geps) :
    ((ci - 1 : Int) : Rat) * w < x ∧ x < ((ci + 2 : Int) : Rat) * w := by
  simp only [Rat.intCast_add, Rat.intCast_sub, Rat.intCast_ofNat] at hi ⊢
  grind

section
variable {c : Cfg} (ok : CfgOK c) {dt : Rat} {p0 : PState} {st : LoopSt} (inv : LInv c dt p0 st) (cell : CellOK c p0)
  (sp : SpeedOK c dt p0.v) (hk : st.trace.length ≤ 100)
include ok inv sp hk

theorem LInv.reach {t : Rat} (h0 : 0 ≤ t) (h1 : t ≤ st.dtLeft) (d : Fin 3) :
    -(c.w d - c.geps) < st.r d + t * st.v d - p0.r d ∧ st.r d + t * st.v d - p0.r d < c.w d - c.geps :=
  reach_bound (absq_nonneg _) h1 (Rat.le_of_lt ok.eps_pos) (Rat.natCast_le_natCast.mpr hk) (inv.disp d)
    (mul_abs_bound h0 (inv.vsign d)) (sp d)

include cell

theorem cand_known {w : Wall} {t : Rat} (hc : candTime c st.r st.v st.dtLeft w = some t) : known c p0.cell w = true := by
  obtain ⟨hp, ht, h0, h1⟩ := candTime_eq_some_iff.mp hc
  obtain ⟨hlo, hhi⟩ := near_cell (cell w.d).2.2.1 (cell w.d).2.2.2 (inv.reach ok sp hk (Rat.le_of_lt h0) h1 w.d)
  rw [(hitTime_eq_some_iff.mp ht).2.1] at hlo hhi
  obtain ⟨d, hi⟩ := w
  cases hi
  · -- the plane `0` lies above the lower end of cell `ci − 1`
    have : p0.cell d - 1 < 0 := int_lt_of_mul_lt (w_pos ok d) (by rw [Rat.intCast_zero, Rat.zero_mul]; exact hlo)
    simp [known, hp]; omega
  · -- the plane `box = ncell · w` lies below the upper end of cell `ci + 1`
    have : c.ncell d < p0.cell d + 2 := int_lt_of_mul_lt (w_pos ok d) (by rw [ncell_mul_w ok]; exact hhi)
    simp [known, hp]; omega

/-- the wall of the earliest candidate crossing is KNOWN to the cell and reports the hit -/
theorem exists_hit_of_cand {w : Wall} {t : Rat} (hwt : candTime c st.r st.v st.dtLeft w = some t) :
    ∃ wm tm, wm ∈ walls c p0.cell ∧
      wallHit c wm st.r st.v st.dtLeft = some (tm, add st.r (smul tm st.v)) ∧
      (∀ b s, candTime c st.r st.v st.dtLeft b = some s → tm ≤ s) ∧
      (∀ k, c.per k = false → 0 ≤ st.r k + tm * st.v k ∧ st.r k + tm * st.v k ≤ c.box k) := by
  have hmem : ∀ {b s}, candTime c st.r st.v st.dtLeft b = some s → s ∈ allWalls.filterMap (candTime c st.r st.v st.dtLeft) :=
    fun h => List.mem_filterMap.mpr ⟨_, mem_allWalls _, h⟩
  match hm : (allWalls.filterMap (candTime c st.r st.v st.dtLeft)).min? with
  | none => exact absurd (List.min?_eq_none_iff.mp hm) (List.ne_nil_of_mem (hmem hwt))
  | some tm =>
    obtain ⟨htm, hmin⟩ := List.min?_eq_some_iff.mp hm
    obtain ⟨wm, _, hm⟩ := List.mem_filterMap.mp htm
    have hmin' : ∀ b s, candTime c st.r st.v st.dtLeft b = some s → tm ≤ s := fun b s hb => hmin s (hmem hb)
    have hbox := inFace_at_min inv.inside hm hmin'
    obtain ⟨hp, ht, h0, h1⟩ := candTime_eq_some_iff.mp hm
    refine ⟨wm, tm, mem_walls.mpr (cand_known ok inv cell sp hk hm), wallHit_eq_some_iff.mpr ⟨ht, h0, h1, rfl, ?_⟩, hmin', hbox⟩
    exact (inFace_iff _).mpr fun k _ hpk => widen ok.delta_nonneg (hbox k hpk)

theorem nohit_inside (hno : ∀ w ∈ walls c p0.cell, wallHit c w st.r st.v st.dtLeft = none) :
    InsideW c (add st.r (smul st.dtLeft st.v)) := by
  intro d hp
  apply Classical.byContradiction
  intro hn
  obtain ⟨w, s, hws, _⟩ := cand_of_outside hp (inv.inside d hp) inv.dt_nonneg Rat.le_refl hn
  obtain ⟨wm, tm, hmem, hhit, _⟩ := exists_hit_of_cand ok inv cell sp hk hws
  rw [hno wm hmem] at hhit
  cases hhit

end

/-! ### one reflection keeps the loop invariant -/

theorem applyHit_r (c : Cfg) (st : LoopSt) (h : Hit) :
    (applyHit c st h).r = (reflect c.refl c.eps st.v h.pos h.wall.normal h.wall.inPlane).1 := by
  simp [applyHit]
theorem applyHit_v (c : Cfg) (st : LoopSt) (h : Hit) :
    (applyHit c st h).v = (reflect c.refl c.eps st.v h.pos h.wall.normal h.wall.inPlane).2 := by
  simp [applyHit]
theorem applyHit_trace (c : Cfg) (st : LoopSt) (h : Hit) : (applyHit c st h).trace = st.trace ++ [h] := rfl
theorem applyHit_dt (c : Cfg) (st : LoopSt) (h : Hit) :
    (applyHit c st h).dtLeft = if st.dtLeft - h.t < 0 then 0 else st.dtLeft - h.t := by
  simp only [applyHit]

theorem applyHit_dt_lt {c : Cfg} {cell : I3} {st : LoopSt} {hit : Hit}
    (hh : checkForHit c (walls c cell) st.r st.v st.dtLeft = some hit) :
    0 < hit.t ∧ hit.t ≤ st.dtLeft ∧ (applyHit c st hit).dtLeft = st.dtLeft - hit.t ∧
    (applyHit c st hit).dtLeft < st.dtLeft ∧ 0 ≤ (applyHit c st hit).dtLeft := by
  obtain ⟨_, h0, h1, _⟩ := wallHit_eq_some_iff.mp (checkForHit_some hh).2.1
  rw [applyHit_dt, if_neg (by grind)]
  grind

/-- `LInv.disp` across one hit: flight `tv` for the time `t`, then a displacement `e` of at most `eps` -/
theorem disp_step {A dt dtl t len eps r r0 tv e : Rat}
    (hx : -(A * (dt - dtl) + len * eps) ≤ r - r0 ∧ r - r0 ≤ A * (dt - dtl) + len * eps)
    (htv : -(t * A) ≤ tv ∧ tv ≤ t * A) (he : -eps ≤ e ∧ e ≤ eps) :
    -(A * (dt - (dtl - t)) + (len + 1) * eps) ≤ r + tv + e - r0 ∧ r + tv + e - r0 ≤ A * (dt - (dtl - t)) + (len + 1) * eps := by
  grind

theorem normal_bound (w : Wall) (k : Fin 3) {e : Rat} (he : 0 ≤ e) :
    -e ≤ e * (if k = w.d then w.sgn else 0) ∧ e * (if k = w.d then w.sgn else 0) ≤ e := by
  unfold Wall.sgn
  split
  · split <;> grind
  · grind

theorem inside_after (c : Cfg) (w : Wall) (h0 : 0 < c.eps) (h1 : c.eps < c.box w.d) :
    0 < w.plane c + c.eps * w.sgn ∧ w.plane c + c.eps * w.sgn < c.box w.d := by
  unfold Wall.plane Wall.sgn
  split <;> grind

theorem applyHit_inv {c : Cfg} (ok : CfgOK c) {dt : Rat} {p0 : PState} {st : LoopSt}
    (inv : LInv c dt p0 st) (heb : ∀ d, c.eps < c.box d) {hit : Hit}
    (hh : checkForHit c (walls c p0.cell) st.r st.v st.dtLeft = some hit) (ne : NoEdge c hit) :
    LInv c dt p0 (applyHit c st hit) := by
  obtain ⟨ht, h0, _, hpos, _⟩ := wallHit_eq_some_iff.mp (checkForHit_some hh).2.1
  obtain ⟨_, _, hdt, hlt, hdt0⟩ := applyHit_dt_lt hh
  have hposk : ∀ k, hit.pos k = st.r k + hit.t * st.v k := fun k => by rw [hpos]; rfl
  have hr : ∀ k, (applyHit c st hit).r k = st.r k + hit.t * st.v k + c.eps * (if k = hit.wall.d then hit.wall.sgn else 0) :=
    fun k => by rw [applyHit_r, (reflect_spec c.refl c.eps st.v hit.pos hit.wall k).1, hposk]
  refine ⟨hdt0, Rat.le_trans (Rat.le_of_lt hlt) inv.dt_le, fun k hpk => ?_, fun k => ?_, fun k => ?_⟩
  · rw [hr]
    by_cases hk : k = hit.wall.d
    · subst hk
      rw [if_pos rfl, (hitTime_eq_some_iff.mp ht).2.1]
      exact inside_after c hit.wall ok.eps_pos (heb _)
    · rw [if_neg hk, Rat.mul_zero, Rat.add_zero, ← hposk]
      exact ne k hk hpk
  · rw [applyHit_v]
    have := reflect_vel_sign c.refl c.eps st.v hit.pos hit.wall k
    have := inv.vsign k
    grind
  · rw [hr, hdt, applyHit_trace, List.length_append, List.length_singleton, Rat.natCast_add, Rat.natCast_ofNat]
    exact disp_step (inv.disp k) (mul_abs_bound (Rat.le_of_lt h0) (inv.vsign k)) (normal_bound _ k (Rat.le_of_lt ok.eps_pos))

/-! ### the loop of `doCollision` -/

theorem doCollision_done {c : Cfg} {cell : I3} :
    ∀ (fuel : Nat) (st st' : LoopSt), doCollision c cell fuel st = .done st' →
      (∃ l, st'.trace = st.trace ++ l) ∧
      checkForHit c (walls c cell) st'.r st'.v st'.dtLeft = none ∧
      st'.trace.length + 1 ≤ st.trace.length + fuel ∧
      st'.dtLeft ≤ st.dtLeft := by
  intro fuel
  induction fuel with
  | zero => intro st st' h; cases h
  | succ n ih =>
    intro st st' h
    unfold doCollision at h
    split at h
    · rename_i hno
      cases h
      exact ⟨⟨[], by simp⟩, hno, by omega, Rat.le_refl⟩
    · rename_i hit hh
      obtain ⟨⟨l, hl⟩, h2, h3, h4⟩ := ih _ _ h
      rw [applyHit_trace] at hl h3
      refine ⟨⟨[hit] ++ l, by rw [hl]; simp⟩, h2, ?_, Rat.le_trans h4 (Rat.le_of_lt (applyHit_dt_lt hh).2.2.2.1)⟩
      rw [List.length_append, List.length_singleton] at h3
      omega

theorem doCollision_inv {c : Cfg} (ok : CfgOK c) {dt : Rat} {p0 : PState} (heb : ∀ d, c.eps < c.box d) :
    ∀ (fuel : Nat) (st st' : LoopSt), LInv c dt p0 st →
      doCollision c p0.cell fuel st = .done st' → (∀ h ∈ st'.trace, NoEdge c h) → LInv c dt p0 st' := by
  intro fuel
  induction fuel with
  | zero => intro st st' _ h; cases h
  | succ n ih =>
    intro st st' inv h hne
    unfold doCollision at h
    split at h
    · cases h; exact inv
    · rename_i hit hh
      obtain ⟨⟨l, hl⟩, _⟩ := doCollision_done _ _ _ h
      rw [applyHit_trace] at hl
      exact ih _ _ (applyHit_inv ok inv heb hh (hne hit (by rw [hl]; simp))) h hne

end Sympler.Collide
