import Sympler.GridLinksGeomOK

/-!
The link list and the outlet geometry of the grid built by `cellSubdivide` — for every cutoff, box and periodicity.  The primed
theorems are for an arbitrary lower corner of the box, the unprimed ones for the corner at the origin (the model's
`staticChecks`, `Props/C01General.lean`).

Core Lean only.
-/
namespace Sympler.Grid
open Sympler Sympler.Cells Sympler.Gen.CellTables

theorem subdivide_linksSpec {cutoff : Rat} {c1 c2 : V3 Rat} {per : V3 Bool} {G : Grid}
    (h : subdivide cutoff c1 c2 per = some G) : LinksSpec G per G.cells.size := by
  obtain ⟨nc, hnc, _, rfl⟩ := subdivide_eq h
  exact (buildGrid_linksSpec nc c1 c2 _ _ per hnc).2.2

/-- the link list that `cellSubdivide` builds is complete and unique, for every cutoff, box and periodicity -/
theorem subdivide_linksOK' {cutoff : Rat} {c1 c2 : V3 Rat} {per : V3 Bool} {G : Grid}
    (h : subdivide cutoff c1 c2 per = some G) : linksOKb G per = true :=
  linksSpec_linksOKb (subdivide_linksSpec h)

theorem subdivide_linksOK {cutoff : Rat} {box : V3 Rat} {per : V3 Bool} {G : Grid}
    (h : subdivide cutoff (0, 0, 0) box per = some G) : linksOKb G per = true :=
  subdivide_linksOK' h

/-- `GeomOK` for every grid that `cellSubdivide` builds from a box with positive side lengths (any cutoff — a
cutoff `≤ 0` gives two cells per direction — and any periodicity) -/
theorem subdivide_geomOK' {cutoff : Rat} {c1 c2 : V3 Rat} {per : V3 Bool} {G : Grid}
    (h : subdivide cutoff c1 c2 per = some G) (hbox : c1.1 < c2.1 ∧ c1.2.1 < c2.2.1 ∧ c1.2.2 < c2.2.2) :
    GeomOK G per := by
  obtain ⟨nc, hnc, _, rfl⟩ := subdivide_eq h
  exact buildGrid_geomOK nc c1 c2 _ per hnc hbox

theorem subdivide_geomOK {cutoff : Rat} {box : V3 Rat} {per : V3 Bool} {G : Grid}
    (h : subdivide cutoff (0, 0, 0) box per = some G) (hbox : 0 < box.1 ∧ 0 < box.2.1 ∧ 0 < box.2.2) :
    GeomOK G per :=
  subdivide_geomOK' h hbox

/-- the hypothesis of `subdivide_geomOK` cannot be dropped: with a cutoff `≤ 0` (two cells per direction) and a box
with negative side lengths `subdivide` succeeds (and `linksOKb` holds by `subdivide_linksOK`) but `GeomOK` fails -/
theorem geomOK_needs_positive_box :
    ∃ G, subdivide 0 (0, 0, 0) (-2, -2, -2) (true, true, true) = some G ∧ ¬ GeomOK G (true, true, true) := by
  cases h : subdivide 0 (0, 0, 0) (-2, -2, -2) (true, true, true) with
  | none => exact absurd h (by decide +kernel)
  | some G =>
    refine ⟨G, rfl, fun hG => ?_⟩
    -- cell 0 is `[0, -1)` in x and has the outlet 7 in direction 0, but `-1 ≤ -2` (the upper corner of the box) fails
    have spec := subdivide_linksSpec h
    obtain ⟨nc, hnc, enc, rfl⟩ := subdivide_eq h
    obtain ⟨enc', _, ec2, ecells⟩ := buildGrid_frame nc (0, 0, 0) (-2, -2, -2)
      (V3.map2 (fun (n : Int) (di : Rat) => (n : Rat) / di) nc (V3.sub (-2, -2, -2) (0, 0, 0)))
      (V3.map2 (fun (di : Rat) (n : Int) => di / (n : Rat)) (V3.sub (-2, -2, -2) (0, 0, 0)) nc) (true, true, true)
    generalize buildGrid nc _ _ _ _ _ = G at *
    subst enc
    have hsz : 0 < G.cells.size := by rw [ecells]; decide +kernel
    have hnbr : nbr G.nc G.cells (true, true, true) 0 0 = some 7 := by rw [enc', ecells]; decide +kernel
    obtain ⟨_, _, hout⟩ := spec.slot_some 0 0 7 hsz (by decide) hnbr
    have hd := ((hG 0 hsz 0 (by decide)).1 7 (by rw [hout]; simp)).1.2.1
    rw [ecells, ec2] at hd
    exact absurd hd (by decide +kernel)

/-! ### a positive cutoff implies a box with positive side lengths -/

theorem pos_of_two_le_truncRat_div {d cutoff : Rat} (hc : 0 < cutoff) (h : 2 ≤ truncRat (d / cutoff)) : 0 < d := by
  have hq : 0 < d / cutoff := by
    unfold truncRat at h
    split at h
    · have h2 : ((2 : Int) : Rat) ≤ d / cutoff := Rat.le_floor_iff.mp h
      have h3 : ((2 : Int) : Rat) = 2 := by simp
      grind
    · have : (0 : Int) ≤ (-(d / cutoff)).floor := Rat.le_floor_iff.mpr (by simp only [Rat.intCast_zero]; grind)
      omega
  have := Rat.mul_pos hq hc
  rwa [Rat.div_mul_cancel (Rat.ne_of_gt hc)] at this

theorem box_pos_of_subdivide {cutoff : Rat} {c1 c2 : V3 Rat} {per : V3 Bool} {G : Grid} (hc : 0 < cutoff)
    (h : subdivide cutoff c1 c2 per = some G) : c1.1 < c2.1 ∧ c1.2.1 < c2.2.1 ∧ c1.2.2 < c2.2.2 := by
  obtain ⟨nc, ⟨n1, n2, n3⟩, e, _⟩ := subdivide_eq h
  have hc' : cutoff > 0 := hc
  rw [e] at n1 n2 n3
  simp only [V3.map, V3.sub, V3.map2, hc', if_true] at n1 n2 n3
  exact ⟨(Rat.lt_iff_sub_pos _ _).mpr (pos_of_two_le_truncRat_div hc n1),
    (Rat.lt_iff_sub_pos _ _).mpr (pos_of_two_le_truncRat_div hc n2),
    (Rat.lt_iff_sub_pos _ _).mpr (pos_of_two_le_truncRat_div hc n3)⟩

/-- `GeomOK` for every grid that `cellSubdivide` builds with a positive cutoff -/
theorem subdivide_geomOK_of_cutoff {cutoff : Rat} {box : V3 Rat} {per : V3 Bool} {G : Grid} (hc : 0 < cutoff)
    (h : subdivide cutoff (0, 0, 0) box per = some G) : GeomOK G per :=
  subdivide_geomOK' h (box_pos_of_subdivide hc h)

theorem linksSpec_outSingle {G : Grid} {per : V3 Bool} (h : LinksSpec G per G.cells.size) : OutSingle G := by
  intro c hc n hn
  cases ht : nbr G.nc G.cells per c n with
  | some t => rw [(h.slot_some c n t hc hn ht).2.2]; simp
  | none => rw [(h.slot_none c n hc hn ht).2]; simp

/-- **all static checks hold for every grid that `cellSubdivide(cutoff, 0, box, per)` builds** from a box with
positive side lengths: `staticChecks` is `true` whenever `subdivide` does not fail -/
theorem staticChecks_of_subdivide {cutoff : Rat} {box : V3 Rat} {per : V3 Bool} {G : Grid}
    (h : subdivide cutoff (0, 0, 0) box per = some G) (hbox : 0 < box.1 ∧ 0 < box.2.1 ∧ 0 < box.2.2) :
    staticChecks cutoff box per = true := by
  have hspec := subdivide_linksSpec h
  have hgeo := subdivide_geomOK h hbox
  unfold staticChecks
  rw [h]
  simp only [Bool.and_eq_true, decide_eq_true_eq, beq_iff_eq]
  refine ⟨⟨⟨gridOKb_complete (subdivide_gridOK h) (linksSpec_outSingle hspec), linksSpec_linksOKb hspec⟩, hgeo⟩, ?_⟩
  rw [hspec.geo.prod]
  simp

theorem staticChecks_of_subdivide_cutoff {cutoff : Rat} {box : V3 Rat} {per : V3 Bool} {G : Grid} (hc : 0 < cutoff)
    (h : subdivide cutoff (0, 0, 0) box per = some G) : staticChecks cutoff box per = true := by
  have hbox := box_pos_of_subdivide hc h
  exact staticChecks_of_subdivide h hbox

/-- with a positive cutoff, `staticChecks` fails exactly when `cellSubdivide` reports "Box length too small" -/
theorem staticChecks_iff_subdivide {cutoff : Rat} {box : V3 Rat} {per : V3 Bool} (hc : 0 < cutoff) :
    staticChecks cutoff box per = true ↔ (subdivide cutoff (0, 0, 0) box per).isSome = true := by
  constructor
  · intro h
    unfold staticChecks at h
    cases hs : subdivide cutoff (0, 0, 0) box per with
    | none => rw [hs] at h; simp at h
    | some G => rfl
  · intro h
    cases hs : subdivide cutoff (0, 0, 0) box per with
    | none => rw [hs] at h; simp at h
    | some G => exact staticChecks_of_subdivide_cutoff hc hs

end Sympler.Grid
