import Sympler.Geom
/-!
# Lemmas for `Sympler.Geom` (C01)

One axis: the neighbour relation says that `i + o` wraps to `j` by `k` box lengths, which makes the
link component the image `x - y - k·L`; a half-open window of width `w` holds one point of `ℤ·w`
(`findCell`, minimum image).  Lists: `forSame`, `forDifferent`.  Three axes: the calls of a link come
in blocks; lists that are exact for the reference relation agree up to order and orientation.
-/
namespace Sympler.Geom

/-! ## Part 1: one axis -/

theorem int_lt_of_mul_lt {m k : Int} {w : Rat} (hw : 0 < w) (h : (m : Rat) * w < (k : Rat) * w) :
    m < k :=
  Rat.intCast_lt_intCast.1 ((Rat.mul_lt_mul_right hw).1 h)

theorem int_eq_of_mul_eq {m k : Int} {w : Rat} (hw : 0 < w) (h : (m : Rat) * w = (k : Rat) * w) :
    m = k := by
  have := congrArg (· / w) h
  simp only [Rat.mul_div_cancel (Rat.ne_of_gt hw)] at this
  exact Rat.intCast_inj.1 this

theorem succ_mul (m : Int) (w : Rat) : ((m + 1 : Int) : Rat) * w = (m : Rat) * w + w := by
  rw [Rat.intCast_add, Rat.add_mul, Rat.intCast_one, Rat.one_mul]

theorem sub_zero_mul (x L : Rat) : x - ((0 : Int) : Rat) * L = x := by
  rw [Rat.intCast_zero, Rat.zero_mul, Rat.sub_eq_add_neg, Rat.neg_zero, Rat.add_zero]

theorem sub_two_mul_zero (w : Rat) : w - 2 * 0 = w := by
  rw [Rat.mul_zero, Rat.sub_eq_add_neg, Rat.neg_zero, Rat.add_zero]

theorem sub_le_sub_right {a b : Rat} (h : a ≤ b) (c : Rat) : a - c ≤ b - c := by
  rw [Rat.sub_eq_add_neg, Rat.sub_eq_add_neg]; exact Rat.add_le_add_right.2 h

theorem sq_nonneg (x : Rat) : 0 ≤ x * x := by
  have := Lean.Grind.OrderedRing.sq_nonneg (a := x)
  rwa [Lean.Grind.Semiring.pow_two] at this

theorem neg_mul_neg_self (x : Rat) : -x * -x = x * x := by
  rw [Rat.neg_mul, Rat.mul_neg, Rat.neg_neg]

theorem sq_le_sq {x y : Rat} (h0 : 0 ≤ x) (h : x ≤ y) : x * x ≤ y * y :=
  Rat.le_trans (Rat.mul_le_mul_of_nonneg_left h h0)
    (Rat.mul_le_mul_of_nonneg_right h (Rat.le_trans h0 h))

theorem sq_le_sq_of_abs_le {x y : Rat} (h1 : -y ≤ x) (h2 : x ≤ y) : x * x ≤ y * y := by
  rcases Rat.le_total (a := 0) (b := x) with h | h
  · exact sq_le_sq h h2
  · have h' := Rat.neg_le_neg h
    rw [Rat.neg_zero] at h'
    rw [← neg_mul_neg_self x]
    exact sq_le_sq h' (Rat.neg_le_iff.1 h1)

theorem lt_of_sq_lt {x r : Rat} (hr : 0 ≤ r) (h : x * x < r * r) : x < r :=
  Rat.not_le.1 fun hle => Rat.not_le.2 h (sq_le_sq hr hle)

theorem abs_lt_of_sq_lt {x r : Rat} (hr : 0 ≤ r) (h : x * x < r * r) : -r < x ∧ x < r :=
  ⟨Rat.neg_lt_iff.2 (lt_of_sq_lt hr (by rwa [neg_mul_neg_self])), lt_of_sq_lt hr h⟩

theorem abs_lt_mono {x r s : Rat} (h : -r < x ∧ x < r) (hrs : r ≤ s) : -s < x ∧ x < s :=
  ⟨Std.lt_of_le_of_lt (Rat.neg_le_neg hrs) h.1, Std.lt_of_lt_of_le h.2 hrs⟩

theorem le_add_of_nonneg (a : Rat) {b : Rat} (hb : 0 ≤ b) : a ≤ a + b := by
  have := (Rat.add_le_add_left (c := a)).2 hb
  rwa [Rat.add_zero] at this

theorem lt_of_add_lt {a b c : Rat} (hb : 0 ≤ b) (h : a + b < c) : a < c :=
  Std.lt_of_le_of_lt (le_add_of_nonneg a hb) h

theorem comp_lt_of_normSq {d : V3 Rat} {rc : Rat} (h0 : 0 < rc) (h : normSq d < rc * rc) :
    (-rc < d.x ∧ d.x < rc) ∧ (-rc < d.y ∧ d.y < rc) ∧ (-rc < d.z ∧ d.z < rc) := by
  have hx := sq_nonneg d.x
  have hy := sq_nonneg d.y
  have hr := Rat.le_of_lt h0
  have hxy : d.x * d.x + d.y * d.y < rc * rc := lt_of_add_lt (sq_nonneg d.z) h
  refine ⟨abs_lt_of_sq_lt hr (lt_of_add_lt hy hxy), abs_lt_of_sq_lt hr (lt_of_add_lt hx ?_),
    abs_lt_of_sq_lt hr (lt_of_add_lt (Rat.add_nonneg hx hy) ?_)⟩
  · rw [Rat.add_comm]; exact hxy
  · rw [Rat.add_comm]; exact h

theorem isOff1_iff {o : Int} : IsOff1 o ↔ -1 ≤ o ∧ o ≤ 1 := by unfold IsOff1; omega

theorem isOff1_of_mul_lt {o : Int} {w : Rat} (hw : 0 < w)
    (h : -w - w < (o : Rat) * w ∧ (o : Rat) * w < w + w) : IsOff1 o := by
  have c : ((2 : Int) : Rat) * w = w + w := by
    rw [show (2 : Int) = 1 + 1 from rfl, succ_mul, Rat.intCast_one, Rat.one_mul]
  have h1 : -2 < o := int_lt_of_mul_lt hw (by
    rw [Rat.intCast_neg, Rat.neg_mul, c, Rat.neg_add, ← Rat.sub_eq_add_neg]; exact h.1)
  have h2 : o < 2 := int_lt_of_mul_lt hw (by rw [c]; exact h.2)
  exact isOff1_iff.2 ⟨by omega, by omega⟩

theorem cellDist1_eq {o : Int} (ho : IsOff1 o) (w : Rat) : cellDist1 w o = (o : Rat) * w := by
  rcases ho with rfl | rfl | rfl <;> simp [cellDist1] <;> grind

theorem linkDelta_eq {a : Axis} {o : Int} (ho : IsOff1 o) (i j : Int) (x y : Rat) :
    a.linkDelta o i j x y = x - y + ((j - i - o : Int) : Rat) * a.w := by
  simp only [Axis.linkDelta, addPair1, Axis.corner, cellDist1_eq ho, Rat.intCast_sub]
  grind

theorem addPair1_neg (cd x ci y cj : Rat) :
    addPair1 (-1) cd y cj x ci = -(addPair1 1 cd x ci y cj) := by
  simp only [addPair1, Rat.intCast_neg, Rat.intCast_one]
  grind

theorem addPair1_dir0 (cd x c y : Rat) : addPair1 0 cd x c y c = x - y := by
  simp only [addPair1, Rat.intCast_zero]
  grind

theorem addPair1_zero (x c y : Rat) : addPair1 0 0 x c y c = x - y := addPair1_dir0 0 x c y

theorem linkDelta_of_wrap {a : Axis} {o i j k : Int} (ho : IsOff1 o)
    (hk : i + o - j = k * (a.n : Int)) (x y : Rat) :
    a.linkDelta o i j x y = x - y - (k : Rat) * a.L := by
  have e : j - i - o = -(k * (a.n : Int)) := by omega
  rw [linkDelta_eq ho, e, Rat.intCast_neg, Rat.intCast_mul, Rat.intCast_natCast, Rat.neg_mul,
    Rat.mul_assoc, ← Rat.sub_eq_add_neg]
  rfl

theorem nb_eq_some {a : Axis} (hn : 0 < a.n) {i o j : Int} :
    a.nb i o = some j ↔
      a.InRange j ∧ ∃ k : Int, (a.per = false → k = 0) ∧ i + o - j = k * (a.n : Int) := by
  have hn' : (0 : Int) < (a.n : Int) := Int.natCast_pos.2 hn
  unfold Axis.nb Axis.InRange
  cases a.per
  · simp only [Bool.false_eq_true, if_false, forall_const]
    constructor
    · intro h
      split at h
      · cases h
        exact ⟨by assumption, 0, rfl, by omega⟩
      · cases h
    · rintro ⟨hj, k, rfl, hk⟩
      rw [show i + o = j by omega, if_pos hj]
  · simp only [if_true, Option.some.injEq, Bool.true_eq_false, false_implies, true_and]
    constructor
    · intro h
      refine ⟨?_, (i + o + (a.n : Int)) / (a.n : Int) - 1, ?_⟩
      · rw [← h]
        exact ⟨Int.emod_nonneg _ (Int.ne_of_gt hn'), Int.emod_lt_of_pos _ hn'⟩
      · have := Int.ediv_mul_add_emod (i + o + (a.n : Int)) (a.n : Int)
        rw [Int.sub_mul]
        omega
    · rintro ⟨hj, k, hk⟩
      have e : i + o + (a.n : Int) = j + (a.n : Int) * (k + 1) := by
        rw [Int.mul_add, Int.mul_comm]; omega
      rw [e, Int.add_mul_emod_self_left, Int.emod_eq_of_lt hj.1 hj.2]

theorem Axis.InRange.pos {a : Axis} {i : Int} (hi : a.InRange i) : 0 < a.n :=
  Int.natCast_pos.1 (Int.lt_of_le_of_lt hi.1 hi.2)

theorem nb_inRange {a : Axis} (hn : 0 < a.n) {i o j : Int} (h : a.nb i o = some j) :
    a.InRange j :=
  ((nb_eq_some hn).1 h).1

theorem nb_zero {a : Axis} {i : Int} (hi : a.InRange i) : a.nb i 0 = some i :=
  (nb_eq_some hi.pos).2 ⟨hi, 0, fun _ => rfl, by omega⟩

theorem nb_flip {a : Axis} {i j o : Int} (hi : a.InRange i) (h : a.nb i o = some j) :
    a.nb j (-o) = some i := by
  obtain ⟨_, k, hk0, hk⟩ := (nb_eq_some hi.pos).1 h
  exact (nb_eq_some hi.pos).2 ⟨hi, -k, fun hp => by rw [hk0 hp]; rfl, by rw [Int.neg_mul]; omega⟩

theorem nb_eq_dvd {a : Axis} (hn : 0 < a.n) {i j o1 o2 : Int} (h1 : a.nb i o1 = some j)
    (h2 : a.nb i o2 = some j) : (a.n : Int) ∣ o1 - o2 := by
  obtain ⟨_, k1, _, e1⟩ := (nb_eq_some hn).1 h1
  obtain ⟨_, k2, _, e2⟩ := (nb_eq_some hn).1 h2
  exact ⟨k1 - k2, by rw [Int.mul_comm, Int.sub_mul]; omega⟩

theorem nb_self {a : Axis} (hn : 2 ≤ a.n) {i o : Int} (hi : a.InRange i) (ho : IsOff1 o)
    (h : a.nb i o = some i) : o = 0 := by
  have hd := nb_eq_dvd hi.pos h (nb_zero hi)
  have ⟨o1, o2⟩ := isOff1_iff.1 ho
  have := Int.eq_zero_of_dvd_of_natAbs_lt_natAbs hd (by omega)
  omega

/-- Soundness, one axis.  No containment hypothesis: the formula only uses the registered cells. -/
theorem axis_sound {a : Axis} {i o j : Int} (hi : a.InRange i) (ho : IsOff1 o)
    (hnb : a.nb i o = some j) (x y : Rat) :
    ∃ k : Int, IsOff1 k ∧ (a.per = false → k = 0) ∧
      a.linkDelta o i j x y = x - y - (k : Rat) * a.L := by
  obtain ⟨hj, k, hk0, hk⟩ := (nb_eq_some hi.pos).1 hnb
  refine ⟨k, ?_, hk0, linkDelta_of_wrap ho hk x y⟩
  -- `k·n = i + o - j` lies in `[-n, n]`
  have ⟨o1, o2⟩ := isOff1_iff.1 ho
  have hn' : (0 : Int) < (a.n : Int) := Int.natCast_pos.2 hi.pos
  have h1 : k * (a.n : Int) ≤ 1 * (a.n : Int) := by have := hi.2; have := hj.1; omega
  have h2 : -1 * (a.n : Int) ≤ k * (a.n : Int) := by have := hi.1; have := hj.2; omega
  exact isOff1_iff.2 ⟨Int.le_of_mul_le_mul_right h2 hn', Int.le_of_mul_le_mul_right h1 hn'⟩

theorem int_eq_of_window {w s : Rat} (hw : 0 < w) {k m : Int}
    (hk : (k : Rat) * w ≤ s ∧ s < (k : Rat) * w + w)
    (hm : (m : Rat) * w ≤ s ∧ s < (m : Rat) * w + w) : k = m := by
  have h1 : k < m + 1 := int_lt_of_mul_lt hw (by rw [succ_mul]; exact Std.lt_of_le_of_lt hk.1 hm.2)
  have h2 : m < k + 1 := int_lt_of_mul_lt hw (by rw [succ_mul]; exact Std.lt_of_le_of_lt hm.1 hk.2)
  omega

theorem floor_window {w : Rat} (hw : 0 < w) (q : Rat) :
    (q.floor : Rat) * w ≤ q * w ∧ q * w < (q.floor : Rat) * w + w := by
  rw [← succ_mul]
  exact ⟨Rat.mul_le_mul_of_nonneg_right (Rat.floor_le q) (Rat.le_of_lt hw),
    Rat.mul_lt_mul_of_pos_right (Rat.lt_floor_add_one q) hw⟩

theorem corner_succ (a : Axis) (i : Int) : a.corner (i + 1) = a.corner i + a.w := succ_mul i a.w

theorem cellIdx_spec {a : Axis} (hw : 0 < a.w) (x : Rat) :
    a.corner (a.cellIdx x) ≤ x ∧ x < a.corner (a.cellIdx x + 1) := by
  have := floor_window hw (x / a.w)
  rw [Rat.div_mul_cancel (Rat.ne_of_gt hw)] at this
  rw [corner_succ]
  exact this

theorem cellIdx_unique {a : Axis} (hw : 0 < a.w) {x : Rat} {i : Int}
    (h1 : a.corner i ≤ x) (h2 : x < a.corner (i + 1)) : a.cellIdx x = i := by
  have := cellIdx_spec hw x
  rw [corner_succ] at this h2
  exact int_eq_of_window hw this ⟨h1, h2⟩

/-! ### Minimum image -/

theorem mi_eq (L t : Rat) : mi L t = t - (((t / L + 1 / 2).floor : Int) : Rat) * L := by
  unfold mi; rw [Rat.mul_comm]

theorem mi_window {L : Rat} (hL : 0 < L) (t : Rat) :
    ((t / L + 1 / 2).floor : Rat) * L ≤ t + L / 2 ∧
      t + L / 2 < ((t / L + 1 / 2).floor : Rat) * L + L := by
  have e : (t / L + 1 / 2) * L = t + L / 2 := by
    rw [Rat.add_mul, Rat.div_mul_cancel (Rat.ne_of_gt hL), Rat.div_def 1, Rat.one_mul, Rat.mul_comm,
      ← Rat.div_def]
  have := floor_window hL (t / L + 1 / 2)
  rwa [e] at this

theorem half_window {A t L : Rat} :
    (-(L / 2) ≤ t - A ∧ t - A < L / 2) ↔ (A ≤ t + L / 2 ∧ t + L / 2 < A + L) := by
  grind

theorem mi_mem {L : Rat} (hL : 0 < L) (t : Rat) : -(L / 2) ≤ mi L t ∧ mi L t < L / 2 := by
  rw [mi_eq]
  exact half_window.2 (mi_window hL t)

theorem mi_unique {L : Rat} (hL : 0 < L) {t : Rat} {k : Int}
    (h1 : -(L / 2) ≤ t - (k : Rat) * L) (h2 : t - (k : Rat) * L < L / 2) :
    t - (k : Rat) * L = mi L t := by
  rw [mi_eq, int_eq_of_window hL (half_window.1 ⟨h1, h2⟩) (mi_window hL t)]

/-- For `-L < t < L` (two points of the box) the image number is in `{-1,0,1}`. -/
theorem mi_image {L : Rat} (hL : 0 < L) {t : Rat} (h1 : -L < t) (h2 : t < L) :
    ∃ k : Int, IsOff1 k ∧ mi L t = t - (k : Rat) * L := by
  have ⟨w1, w2⟩ := mi_window hL t
  refine ⟨_, isOff1_of_mul_lt hL ?_, mi_eq L t⟩
  generalize (((t / L + 1 / 2).floor : Int) : Rat) * L = A at w1 w2 ⊢
  grind

/-- Minimality of the modulus: no image of `t` is shorter than `mi L t` — a strictly shorter one
would lie in `(-L/2, L/2)` and so be `mi L t` itself. -/
theorem mi_minimal {L : Rat} (hL : 0 < L) (t : Rat) (k : Int) :
    mi L t * mi L t ≤ (t - (k : Rat) * L) * (t - (k : Rat) * L) := by
  apply Rat.not_lt.1
  intro hlt
  have ⟨m1, m2⟩ := mi_mem hL t
  have hd := sq_le_sq_of_abs_le m1 (Rat.le_of_lt m2)
  have hL2 : 0 ≤ L / 2 := Rat.mul_nonneg (Rat.le_of_lt hL) (Rat.le_of_lt (Rat.inv_pos.2 (by decide)))
  have ⟨e1, e2⟩ := abs_lt_of_sq_lt hL2 (Std.lt_of_lt_of_le hlt hd)
  rw [mi_unique hL (Rat.le_of_lt e1) e2] at hlt
  exact Rat.lt_irrefl hlt

theorem mi_neg_image (L t : Rat) :
    -t - ((-(t / L + 1 / 2).floor : Int) : Rat) * L = -(mi L t) := by
  rw [mi_eq, Rat.intCast_neg]; grind

/-- Away from the tie `|mi| = L/2` the minimum image is antisymmetric. -/
theorem mi_neg {L : Rat} (hL : 0 < L) {t : Rat} (h : -(L / 2) < mi L t) :
    mi L (-t) = -(mi L t) := by
  have := mi_unique hL (t := -t) (k := -(t / L + 1 / 2).floor)
  rw [mi_neg_image] at this
  exact (this (Rat.neg_le_neg (Rat.le_of_lt (mi_mem hL t).2)) (Rat.neg_lt_iff.1 h)).symm

theorem mi_sq_neg {L : Rat} (hL : 0 < L) (t : Rat) : mi L (-t) * mi L (-t) = mi L t * mi L t := by
  have e : ∀ s, mi L (-s) * mi L (-s) ≤ mi L s * mi L s := fun s => by
    have := mi_minimal hL (-s) (-(s / L + 1 / 2).floor)
    rwa [mi_neg_image, neg_mul_neg_self] at this
  have := e (-t)
  rw [Rat.neg_neg] at this
  exact Rat.le_antisymm (e t) this

/-! ### The reference separation `sep` and the link component -/

theorem Axis.OK.L_facts {a : Axis} (h : a.OK) : 0 < a.L ∧ a.w ≤ a.L / 2 := by
  obtain ⟨hw, hn⟩ := h
  have h2 : (2 : Rat) * a.w ≤ (a.n : Rat) * a.w :=
    Rat.mul_le_mul_of_nonneg_right (Rat.natCast_le_natCast.2 hn) (Rat.le_of_lt hw)
  exact ⟨Rat.mul_pos (Rat.natCast_pos.2 (by omega)) hw, by unfold Axis.L; grind⟩

theorem sep_form {a : Axis} (x y : Rat) :
    ∃ k : Int, (a.per = false → k = 0) ∧ a.sep x y = x - y - (k : Rat) * a.L := by
  unfold Axis.sep
  cases a.per
  · exact ⟨0, fun _ => rfl, (sub_zero_mul _ _).symm⟩
  · exact ⟨_, nofun, mi_eq _ _⟩

theorem sep_unique {a : Axis} (ha : a.OK) {x y : Rat} {k : Int} (hk : a.per = false → k = 0)
    (h1 : -(a.L / 2) ≤ x - y - (k : Rat) * a.L) (h2 : x - y - (k : Rat) * a.L < a.L / 2) :
    x - y - (k : Rat) * a.L = a.sep x y := by
  unfold Axis.sep
  cases hp : a.per
  · rw [hk hp, sub_zero_mul]; rfl
  · exact mi_unique ha.L_facts.1 h1 h2

theorem sep_minimal {a : Axis} (h : a.OK) (x y : Rat) (k : Int) (hk : a.per = false → k = 0) :
    a.sep x y * a.sep x y ≤ (x - y - (k : Rat) * a.L) * (x - y - (k : Rat) * a.L) := by
  unfold Axis.sep
  cases hp : a.per
  · rw [hk hp, sub_zero_mul]; exact Rat.le_refl
  · exact mi_minimal h.L_facts.1 _ k

theorem sep_neg {a : Axis} (h : a.OK) {x y : Rat} (hb : -(a.L / 2) < a.sep x y) :
    a.sep y x = -(a.sep x y) := by
  unfold Axis.sep at *
  rw [← Rat.neg_sub x y]
  cases hp : a.per
  · rfl
  · rw [hp] at hb; exact mi_neg h.L_facts.1 hb

theorem sep_sq_symm {a : Axis} (h : a.OK) (x y : Rat) :
    a.sep y x * a.sep y x = a.sep x y * a.sep x y := by
  unfold Axis.sep
  rw [← Rat.neg_sub x y]
  cases a.per
  · exact neg_mul_neg_self _
  · exact mi_sq_neg h.L_facts.1 _

/-- A link component of modulus `< rc ≤ w ≤ L/2` *is* the reference separation component. -/
theorem axis_sound_sep {a : Axis} (ha : a.OK) {rc : Rat} (hrc : rc ≤ a.w) {i o j : Int}
    (ho : IsOff1 o) (hnb : a.nb i o = some j) {x y : Rat}
    (b : -rc < a.linkDelta o i j x y ∧ a.linkDelta o i j x y < rc) :
    a.linkDelta o i j x y = a.sep x y := by
  obtain ⟨_, k, hk0, hk⟩ := (nb_eq_some (by have := ha.2; omega)).1 hnb
  have ⟨b1, b2⟩ := abs_lt_mono b (Rat.le_trans hrc ha.L_facts.2)
  rw [linkDelta_of_wrap ho hk] at b1 b2 ⊢
  exact sep_unique ha hk0 (Rat.le_of_lt b1) b2

/-- Both components are the reference separation, and they differ by `o₂ - o₁` cell widths.  (For
`n ≥ 3` the neighbour condition alone forces `o₁ = o₂`, `nb_eq_dvd`; for `n = 2` periodic `o = 1` and
`o = -1` reach the same cell.) -/
theorem axis_unique {a : Axis} (ha : a.OK) {rc : Rat} (hrc : rc ≤ a.w) {i j o1 o2 : Int}
    (ho1 : IsOff1 o1) (ho2 : IsOff1 o2) (h1 : a.nb i o1 = some j) (h2 : a.nb i o2 = some j)
    {x y : Rat}
    (b1 : -rc < a.linkDelta o1 i j x y ∧ a.linkDelta o1 i j x y < rc)
    (b2 : -rc < a.linkDelta o2 i j x y ∧ a.linkDelta o2 i j x y < rc) : o1 = o2 := by
  have e := (axis_sound_sep ha hrc ho1 h1 b1).trans (axis_sound_sep ha hrc ho2 h2 b2).symm
  rw [linkDelta_eq ho1, linkDelta_eq ho2] at e
  have := int_eq_of_mul_eq ha.1 (Rat.add_left_cancel _ e)
  omega

/-- Completeness, one axis: particles at most `ε` outside the cells they are registered in. -/
theorem axis_complete_off {a : Axis} {ε : Rat} {i j : Int} {x y : Rat} (hw : 0 < a.w)
    (hi : a.Contains ε i x) (hj : a.Contains ε j y) (k : Int) (hk : a.per = false → k = 0)
    (hlo : -(a.w - 2 * ε) < x - y - (k : Rat) * a.L)
    (hhi : x - y - (k : Rat) * a.L < a.w - 2 * ε) :
    IsOff1 (j - i + k * (a.n : Int)) ∧ a.nb i (j - i + k * (a.n : Int)) = some j ∧
      a.linkDelta (j - i + k * (a.n : Int)) i j x y = x - y - (k : Rat) * a.L := by
  obtain ⟨hin, hi1, hi2⟩ := hi
  obtain ⟨hjn, hj1, hj2⟩ := hj
  have hwrap : i + (j - i + k * (a.n : Int)) - j = k * (a.n : Int) := by omega
  -- `o·w = (j·w - y) - (i·w - x) + (x - y - δ)`, where `x`, `y` are at most `ε` outside their cells
  have e : ((j - i + k * (a.n : Int) : Int) : Rat) * a.w =
      a.corner j - a.corner i + (k : Rat) * a.L := by
    simp only [Axis.corner, Axis.L, Rat.intCast_sub, Rat.intCast_add, Rat.intCast_mul,
      Rat.intCast_natCast, Rat.sub_eq_add_neg, Rat.add_mul, Rat.neg_mul, Rat.mul_assoc]
  rw [corner_succ] at hi2 hj2
  have ho : IsOff1 (j - i + k * (a.n : Int)) := isOff1_of_mul_lt hw (by
    rw [e]
    generalize a.corner i = ci at hi1 hi2
    generalize a.corner j = cj at hj1 hj2
    generalize (k : Rat) * a.L = kL at hlo hhi
    clear e hwrap hin hjn hk
    grind)
  exact ⟨ho, (nb_eq_some hin.pos).2 ⟨hjn, k, hk, hwrap⟩, linkDelta_of_wrap ho hwrap x y⟩

theorem axis_complete_sep {a : Axis} {ε : Rat} {i j : Int} {x y : Rat} (hw : 0 < a.w)
    (hi : a.Contains ε i x) (hj : a.Contains ε j y) {rc : Rat} (hrc : rc ≤ a.w - 2 * ε)
    (b : -rc < a.sep x y ∧ a.sep x y < rc) :
    ∃ o, IsOff1 o ∧ a.nb i o = some j ∧ a.linkDelta o i j x y = a.sep x y := by
  obtain ⟨k, hk, e⟩ := sep_form (a := a) x y
  rw [e] at b ⊢
  have ⟨b1, b2⟩ := abs_lt_mono b hrc
  exact ⟨_, axis_complete_off hw hi hj k hk b1 b2⟩

theorem contains_cellIdx {a : Axis} (hw : 0 < a.w) {x : Rat} (h0 : 0 ≤ x) (h1 : x < a.L) :
    a.Contains 0 (a.cellIdx x) x := by
  obtain ⟨s1, s2⟩ := cellIdx_spec hw x
  refine ⟨⟨?_, ?_⟩, by rw [Rat.sub_eq_add_neg, Rat.neg_zero, Rat.add_zero]; exact s1,
    by rw [Rat.add_zero]; exact s2⟩
  · have : (-1 : Int) < a.cellIdx x := int_lt_of_mul_lt hw (by
      rw [corner_succ] at s2
      rw [Rat.intCast_neg, Rat.intCast_one, Rat.neg_mul, Rat.one_mul, Rat.lt_iff_sub_pos,
        Rat.sub_eq_add_neg, Rat.neg_neg]
      exact Std.lt_of_le_of_lt h0 s2)
    omega
  · exact int_lt_of_mul_lt hw (by rw [Rat.intCast_natCast]; exact Std.lt_of_le_of_lt s1 h1)

theorem Contains.cellIdx_eq {a : Axis} (hw : 0 < a.w) {x : Rat} {i : Int}
    (h : a.Contains 0 i x) : a.cellIdx x = i := by
  obtain ⟨_, h1, h2⟩ := h
  rw [Rat.sub_eq_add_neg, Rat.neg_zero, Rat.add_zero] at h1
  rw [Rat.add_zero] at h2
  exact cellIdx_unique hw h1 h2

/-! ## Part 2: lists -/

theorem mem_forDifferent {f : Particle → Particle → Option Pair} {ps qs : List Particle} {e : Pair} :
    e ∈ forDifferent f ps qs ↔ ∃ p, p ∈ ps ∧ ∃ q, q ∈ qs ∧ f p q = some e := by
  simp [forDifferent, List.mem_flatMap, List.mem_filterMap]

theorem mem_forSame {f : Particle → Particle → Option Pair} {l : List Particle} {e : Pair} :
    e ∈ forSame f l ↔ ∃ p q, [p, q].Sublist l ∧ f p q = some e := by
  induction l with
  | nil => simp [forSame]
  | cons a l ih =>
    simp only [forSame, List.mem_append, List.mem_filterMap, ih]
    constructor
    · rintro (⟨q, hq, h⟩ | ⟨p, q, hs, h⟩)
      · exact ⟨a, q, by simpa using hq, h⟩
      · exact ⟨p, q, hs.cons _, h⟩
    · rintro ⟨p, q, hs, h⟩
      cases hs with
      | cons _ hs => exact Or.inr ⟨p, q, hs, h⟩
      | cons_cons _ hs => exact Or.inl ⟨q, by simpa using hs, h⟩

theorem sublist_pair_of_mem {α} {l : List α} {p q : α} (hp : p ∈ l) (hq : q ∈ l) (hne : p ≠ q) :
    [p, q].Sublist l ∨ [q, p].Sublist l := by
  induction l with
  | nil => cases hp
  | cons a l ih =>
    rcases List.mem_cons.1 hp with rfl | hp' <;> rcases List.mem_cons.1 hq with rfl | hq'
    · exact absurd rfl hne
    · exact Or.inl (by simpa using hq')
    · exact Or.inr (by simpa using hp')
    · rcases ih hp' hq' with h | h
      · exact Or.inl (h.cons _)
      · exact Or.inr (h.cons _)

theorem pairwise_of_sublist_pair {α} {R : α → α → Prop} {l : List α} {p q : α}
    (h : l.Pairwise R) (hs : [p, q].Sublist l) : R p q := by
  have := h.sublist hs
  simpa using this

def IdsOf (f : Particle → Particle → Option Pair) : Prop :=
  ∀ p q e, f p q = some e → e.i = p.id ∧ e.j = q.id

abbrev IdNe (p q : Particle) : Prop := p.id ≠ q.id

theorem IdsOf.of_same {f f' : Particle → Particle → Option Pair} (hf : IdsOf f) (hf' : IdsOf f')
    {p q p' q' : Particle} {e e' : Pair} (he : f p q = some e) (he' : f' p' q' = some e')
    (hs : e.same e') :
    (p.id = p'.id ∧ q.id = q'.id) ∨ (p.id = q'.id ∧ q.id = p'.id) := by
  obtain ⟨h1, h2⟩ := hf _ _ _ he
  obtain ⟨h3, h4⟩ := hf' _ _ _ he'
  unfold Pair.same at hs
  rwa [h1, h2, h3, h4] at hs

theorem pairwise_filterMap_row {f : Particle → Particle → Option Pair} (hf : IdsOf f)
    {p : Particle} {qs : List Particle} (hqs : qs.Pairwise IdNe) (hd : ∀ q, q ∈ qs → p.id ≠ q.id) :
    (qs.filterMap (f p)).Pairwise (fun e e' => ¬ e.same e') := by
  rw [List.pairwise_filterMap]
  refine hqs.imp_of_mem ?_
  intro q q' hq hq' hne e he e' he' hs
  rcases hf.of_same hf he he' hs with ⟨_, h⟩ | ⟨h, _⟩
  · exact hne h
  · exact hd q' hq' h

theorem pairwise_forDifferent {f : Particle → Particle → Option Pair} (hf : IdsOf f)
    {ps qs : List Particle} (hps : ps.Pairwise IdNe) (hqs : qs.Pairwise IdNe)
    (hd : ∀ p, p ∈ ps → ∀ q, q ∈ qs → p.id ≠ q.id) :
    (forDifferent f ps qs).Pairwise (fun e e' => ¬ e.same e') := by
  unfold forDifferent
  rw [List.pairwise_flatMap]
  refine ⟨fun p hp => pairwise_filterMap_row hf hqs (hd p hp), hps.imp_of_mem ?_⟩
  intro p p' hp hp' hne e he e' he' hs
  obtain ⟨q, hq, he⟩ := List.mem_filterMap.1 he
  obtain ⟨q', hq', he'⟩ := List.mem_filterMap.1 he'
  rcases hf.of_same hf he he' hs with ⟨h, _⟩ | ⟨h, _⟩
  · exact hne h
  · exact hd p hp q' hq' h

theorem pairwise_forSame {f : Particle → Particle → Option Pair} (hf : IdsOf f)
    {l : List Particle} (hl : l.Pairwise IdNe) :
    (forSame f l).Pairwise (fun e e' => ¬ e.same e') := by
  induction l with
  | nil => exact List.Pairwise.nil
  | cons a l ih =>
    rw [List.pairwise_cons] at hl
    rw [forSame, List.pairwise_append]
    refine ⟨pairwise_filterMap_row hf hl.2 hl.1, ih hl.2, ?_⟩
    intro e he e' he' hs
    obtain ⟨q, hq, he⟩ := List.mem_filterMap.1 he
    obtain ⟨p', q', hsub, he'⟩ := mem_forSame.1 he'
    rcases hf.of_same hf he he' hs with ⟨h, _⟩ | ⟨h, _⟩
    · exact hl.1 p' (hsub.subset (List.mem_cons_self ..)) h
    · exact hl.1 q' (hsub.subset (List.mem_cons_of_mem _ (List.mem_cons_self ..))) h

theorem forSame_map (f : Particle → Particle → Option Pair) (s : Particle → Particle)
    (h : ∀ p q, f (s p) (s q) = f p q) : ∀ l : List Particle, forSame f (l.map s) = forSame f l
  | [] => rfl
  | p :: ps => by
    rw [List.map_cons, forSame, forSame, forSame_map f s h ps, List.filterMap_map]
    exact congrArg (fun g => List.filterMap g ps ++ _) (funext (h p))

theorem forDifferent_map (f : Particle → Particle → Option Pair) (s : Particle → Particle)
    (h : ∀ p q, f (s p) (s q) = f p q) (l1 l2 : List Particle) :
    forDifferent f (l1.map s) (l2.map s) = forDifferent f l1 l2 := by
  unfold forDifferent
  rw [List.flatMap_map]
  exact congrArg (fun g => List.flatMap g l1) (funext fun p => by
    rw [List.filterMap_map]; exact congrArg (fun g => List.filterMap g l2) (funext (h p)))

/-! ## Part 3: three axes -/

theorem isOff1_neg {o : Int} (h : IsOff1 o) : IsOff1 (-o) := by
  have ⟨h1, h2⟩ := isOff1_iff.1 h
  exact isOff1_iff.2 ⟨Int.neg_le_neg h2, by omega⟩

theorem IsOff.neg {o : V3 Int} (h : IsOff o) : IsOff (vneg o) :=
  ⟨isOff1_neg h.1, isOff1_neg h.2.1, isOff1_neg h.2.2⟩

theorem Grid.nb_eq_some {g : Grid} {c o c' : V3 Int} :
    g.nb c o = some c' ↔
      g.x.nb c.x o.x = some c'.x ∧ g.y.nb c.y o.y = some c'.y ∧ g.z.nb c.z o.z = some c'.z := by
  unfold Grid.nb
  constructor
  · intro h
    split at h
    · cases h; exact ⟨by assumption, by assumption, by assumption⟩
    · cases h
  · rintro ⟨hx, hy, hz⟩
    rw [hx, hy, hz]

theorem vneg_vneg (o : V3 Int) : vneg (vneg o) = o := by
  cases o; simp [vneg]

theorem vnegR_vnegR (d : V3 Rat) : vnegR (vnegR d) = d := by
  cases d; simp [vnegR, Rat.neg_neg]

theorem normSq_vnegR (d : V3 Rat) : normSq (vnegR d) = normSq d := by
  simp only [normSq, vnegR, neg_mul_neg_self]

theorem Link.flip_flip (l : Link) : l.flip.flip = l := by
  cases l; simp [Link.flip, vneg_vneg]

theorem Axis.OK.pos {a : Axis} (h : a.OK) : 0 < a.n := Nat.lt_of_lt_of_le (by decide) h.2

theorem Grid.nb_inGrid {g : Grid} (hg : g.OK) {c o c' : V3 Int} (h : g.nb c o = some c') :
    g.InGrid c' := by
  rw [Grid.nb_eq_some] at h
  exact ⟨nb_inRange hg.1.pos h.1, nb_inRange hg.2.1.pos h.2.1, nb_inRange hg.2.2.pos h.2.2⟩

theorem Link.Valid.flip {g : Grid} (hg : g.OK) {l : Link} (h : l.Valid g) : l.flip.Valid g := by
  obtain ⟨hin, hoff, hnb⟩ := h
  refine ⟨Grid.nb_inGrid hg hnb, hoff.neg, ?_⟩
  rw [Grid.nb_eq_some] at hnb ⊢
  exact ⟨nb_flip hin.1 hnb.1, nb_flip hin.2.1 hnb.2.1, nb_flip hin.2.2 hnb.2.2⟩

theorem Link.Valid.local_iff {g : Grid} (hg : g.OK) {l : Link} (h : l.Valid g) :
    l.first = l.second ↔ l.o = ⟨0, 0, 0⟩ := by
  obtain ⟨first, second, o⟩ := l
  obtain ⟨hin, hoff, hnb⟩ := h
  rw [Grid.nb_eq_some] at hnb
  show first = second ↔ o = ⟨0, 0, 0⟩
  constructor
  · rintro rfl
    have h1 := nb_self hg.1.2 hin.1 hoff.1 hnb.1
    have h2 := nb_self hg.2.1.2 hin.2.1 hoff.2.1 hnb.2.1
    have h3 := nb_self hg.2.2.2 hin.2.2 hoff.2.2 hnb.2.2
    cases o
    simp only at h1 h2 h3
    rw [h1, h2, h3]
  · rintro rfl
    have h1 := (nb_zero hin.1).symm.trans hnb.1
    have h2 := (nb_zero hin.2.1).symm.trans hnb.2.1
    have h3 := (nb_zero hin.2.2).symm.trans hnb.2.2
    cases first; cases second
    simp only [Option.some.injEq] at h1 h2 h3
    rw [h1, h2, h3]

/-- The vector the link delivers (`dir = 1`) for a particle at `r1` in `first` and one at `r2`
in `second`. -/
def Link.vec (g : Grid) (l : Link) (r1 r2 : V3 Rat) : V3 Rat :=
  ⟨g.x.linkDelta l.o.x l.first.x l.second.x r1.x r2.x,
   g.y.linkDelta l.o.y l.first.y l.second.y r1.y r2.y,
   g.z.linkDelta l.o.z l.first.z l.second.z r1.z r2.z⟩

theorem linkDelta_flip {a : Axis} {o : Int} (ho : IsOff1 o) (i j : Int) (x y : Rat) :
    a.linkDelta (-o) j i y x = -(a.linkDelta o i j x y) := by
  rw [linkDelta_eq ho, linkDelta_eq (isOff1_neg ho)]
  simp only [Rat.intCast_sub, Rat.intCast_neg]
  grind

theorem Link.flip_vec {g : Grid} {l : Link} (ho : IsOff l.o) (r1 r2 : V3 Rat) :
    l.flip.vec g r2 r1 = vnegR (l.vec g r1 r2) := by
  simp only [Link.vec, Link.flip, vneg, vnegR, linkDelta_flip ho.1, linkDelta_flip ho.2.1,
    linkDelta_flip ho.2.2]

theorem Link.Valid.cellDist_eq {g : Grid} (hg : g.OK) {l : Link} (h : l.Valid g) :
    l.cellDist g = g.cellDist l.o := by
  unfold Link.cellDist
  split
  · rename_i e
    rw [(h.local_iff hg).1 e]
    simp [Grid.cellDist, cellDist1]
  · rfl

/-! ### The calls a link makes -/

theorem IdsNodup.eq_of_id {cfg : Config} (h : IdsNodup cfg) {p q : Particle}
    (hp : p ∈ cfg.parts) (hq : q ∈ cfg.parts) (e : p.id = q.id) : p = q := by
  unfold IdsNodup at h
  false_or_by_contra
  rename_i hne
  rcases sublist_pair_of_mem hp hq hne with hs | hs
  · exact pairwise_of_sublist_pair h hs e
  · exact pairwise_of_sublist_pair h hs e.symm

theorem mem_cellParts {cfg : Config} {c : V3 Int} {col : Nat} {fr : Bool} {p : Particle} :
    p ∈ cfg.cellParts c col fr ↔ p ∈ cfg.parts ∧ p.cell = c ∧ p.colour = col ∧ p.frozen = fr := by
  simp [Config.cellParts, List.mem_filter, and_assoc]

theorem cellParts_sublist (cfg : Config) (c : V3 Int) (col : Nat) (fr : Bool) :
    (cfg.cellParts c col fr).Sublist cfg.parts := List.filter_sublist

theorem cellParts_pairwise {cfg : Config} (hid : IdsNodup cfg) (c : V3 Int) (col : Nat) (fr : Bool) :
    (cfg.cellParts c col fr).Pairwise IdNe :=
  List.Pairwise.sublist (cellParts_sublist cfg c col fr) hid

/-- A `createDistancesForDifferent` call for particles with frozen flags `f`; it acts on the free
ones. -/
def Slot.diff (dir : Int) (c1 c2 : V3 Int) (a b : Nat) (f : Bool × Bool) : Slot :=
  ⟨false, dir, c1, c2, a, f.1, b, f.2, !f.1, !f.2⟩

/-- The table of calls consists of blocks of three `ForDifferent` calls (free–free, free–frozen,
frozen–free) for a direction and an ordered pair of cells; only two particles of one colour in one
cell are treated apart. -/
theorem slots_eq (l : Link) (a b : Nat) : slots l a b =
    if l.first = l.second then
      if a = b then [⟨true, 0, l.first, l.first, a, false, a, false, true, true⟩,
        .diff 0 l.first l.first a a (false, true)]
      else [(false, false), (false, true), (true, false)].map (.diff 0 l.first l.first a b)
    else
      (if a = b then []
        else [(false, false), (false, true), (true, false)].map (.diff 1 l.first l.second a b)) ++
      [(false, false), (true, false), (false, true)].map (.diff (-1) l.second l.first a b) := rfl

/-- The flag pairs of a block in the order of the `dir = 1` calls and in that of the `dir = -1` calls
(the `else` branch of the colour loop has free–frozen and frozen–free exchanged). -/
theorem mem_flags {f : Bool × Bool} :
    (f ∈ [(false, false), (false, true), (true, false)] ↔ ¬(f.1 = true ∧ f.2 = true)) ∧
    (f ∈ [(false, false), (true, false), (false, true)] ↔ ¬(f.1 = true ∧ f.2 = true)) := by
  rcases f with ⟨_ | _, _ | _⟩ <;> decide

theorem mem_runSlot_diff {cfg : Config} {rc2 : Rat} {cd : V3 Rat} {dir : Int} {c1 c2 : V3 Int}
    {a b : Nat} {f : Bool × Bool} {e : Pair} :
    e ∈ runSlot cfg rc2 cd (Slot.diff dir c1 c2 a b f) ↔
      ∃ p q, (p ∈ cfg.parts ∧ p.cell = c1 ∧ p.colour = a ∧ p.frozen = f.1) ∧
        (q ∈ cfg.parts ∧ q.cell = c2 ∧ q.colour = b ∧ q.frozen = f.2) ∧
        addPair cfg.grid rc2 dir c1 c2 cd (!f.1) (!f.2) p q = some e := by
  show e ∈ forDifferent _ _ _ ↔ _
  exact mem_forDifferent.trans
    ⟨fun ⟨p, hp, q, hq, h⟩ => ⟨p, q, mem_cellParts.1 hp, mem_cellParts.1 hq, h⟩,
      fun ⟨p, q, hp, hq, h⟩ => ⟨p, mem_cellParts.2 hp, q, mem_cellParts.2 hq, h⟩⟩

theorem mem_block {cfg : Config} {rc2 : Rat} {cd : V3 Rat} {dir : Int} {c1 c2 : V3 Int} {a b : Nat}
    {fs : List (Bool × Bool)} (hfs : ∀ f, f ∈ fs ↔ ¬(f.1 = true ∧ f.2 = true)) {e : Pair} :
    e ∈ (fs.map (Slot.diff dir c1 c2 a b)).flatMap (runSlot cfg rc2 cd) ↔
      ∃ p q, p ∈ cfg.parts ∧ q ∈ cfg.parts ∧ (p.cell = c1 ∧ p.colour = a) ∧
        (q.cell = c2 ∧ q.colour = b) ∧ ¬(p.frozen = true ∧ q.frozen = true) ∧
        addPair cfg.grid rc2 dir c1 c2 cd (!p.frozen) (!q.frozen) p q = some e := by
  constructor
  · intro h
    obtain ⟨s, hs, he⟩ := List.mem_flatMap.1 h
    obtain ⟨⟨f1, f2⟩, hf, rfl⟩ := List.mem_map.1 hs
    obtain ⟨p, q, ⟨hp, cp, ca, rfl⟩, ⟨hq, cq, cb, rfl⟩, he⟩ := mem_runSlot_diff.1 he
    exact ⟨p, q, hp, hq, ⟨cp, ca⟩, ⟨cq, cb⟩, (hfs _).1 hf, he⟩
  · rintro ⟨p, q, hp, hq, ⟨cp, ca⟩, ⟨cq, cb⟩, hfr, he⟩
    exact List.mem_flatMap.2 ⟨_, List.mem_map_of_mem (a := (p.frozen, q.frozen)) ((hfs _).2 hfr),
      mem_runSlot_diff.2 ⟨p, q, ⟨hp, cp, ca, rfl⟩, ⟨hq, cq, cb, rfl⟩, he⟩⟩

theorem addPair_ids (g : Grid) (rc2 : Rat) (dir : Int) (c1 c2 : V3 Int) (cd : V3 Rat)
    (ao1 ao2 : Bool) : IdsOf (addPair g rc2 dir c1 c2 cd ao1 ao2) := by
  intro p q e h
  unfold addPair at h
  simp only at h
  split at h
  · cases h; exact ⟨rfl, rfl⟩
  · cases h

/-- The entry the link `l` delivers for `u` in `first`, `v` in `second` when `u` is listed
first. -/
def mkLinkPair (g : Grid) (l : Link) (u v : Particle) : Pair :=
  ⟨u.id, v.id, l.vec g u.r v.r, !u.frozen, !v.frozen⟩

theorem linkDelta_local (a : Axis) (i : Int) (x y : Rat) : a.linkDelta 0 i i x y = x - y := by
  rw [linkDelta_of_wrap (k := 0) (Or.inr (Or.inl rfl)) (by omega), sub_zero_mul]

theorem addPair_fwd (g : Grid) (rc2 : Rat) (l : Link) (u v : Particle) :
    addPair g rc2 1 l.first l.second (g.cellDist l.o) (!u.frozen) (!v.frozen) u v =
      if normSq (l.vec g u.r v.r) < rc2 then some (mkLinkPair g l u v) else none := rfl

/-- The call from the other cell (`dir = -1`, same `cellDist`) delivers what the flipped link delivers. -/
theorem addPair_bwd (g : Grid) (rc2 : Rat) {l : Link} (ho : IsOff l.o) (u v : Particle) :
    addPair g rc2 (-1) l.second l.first (g.cellDist l.o) (!u.frozen) (!v.frozen) u v =
      if normSq (l.flip.vec g u.r v.r) < rc2 then some (mkLinkPair g l.flip u v) else none := by
  have e : (⟨addPair1 (-1) (g.cellDist l.o).x u.r.x (g.corner l.second).x v.r.x (g.corner l.first).x,
       addPair1 (-1) (g.cellDist l.o).y u.r.y (g.corner l.second).y v.r.y (g.corner l.first).y,
       addPair1 (-1) (g.cellDist l.o).z u.r.z (g.corner l.second).z v.r.z (g.corner l.first).z⟩
        : V3 Rat) = l.flip.vec g u.r v.r := by
    rw [Link.flip_vec ho]
    simp only [Link.vec, vnegR, Grid.corner, Grid.cellDist, Axis.linkDelta, addPair1_neg]
  unfold addPair mkLinkPair
  simp only [e]

theorem addPair_loc {g : Grid} {l : Link} (hloc : l.first = l.second) (ho : l.o = ⟨0, 0, 0⟩)
    (rc2 : Rat) (cd : V3 Rat) (u v : Particle) :
    addPair g rc2 0 l.first l.first cd (!u.frozen) (!v.frozen) u v =
      if normSq (l.vec g u.r v.r) < rc2 then some (mkLinkPair g l u v) else none := by
  have e : l.vec g u.r v.r = ⟨u.r.x - v.r.x, u.r.y - v.r.y, u.r.z - v.r.z⟩ := by
    simp only [Link.vec, ← hloc, ho, linkDelta_local]
  unfold addPair mkLinkPair
  simp only [addPair1_dir0, e]

theorem Link.vec_local_symm {g : Grid} {l : Link} (hloc : l.first = l.second)
    (ho : l.o = ⟨0, 0, 0⟩) (r1 r2 : V3 Rat) :
    normSq (l.vec g r2 r1) = normSq (l.vec g r1 r2) := by
  have e : l.flip = l := by
    obtain ⟨f, s, o⟩ := l
    simp only at hloc ho
    subst hloc ho
    rfl
  rw [← normSq_vnegR (l.vec g r1 r2), ← Link.flip_vec (by rw [ho]; decide), e]

/-- Provenance: every entry of `linkPairs` is `mkLinkPair` of the link or of the same link seen from the
other cell. -/
theorem linkPairs_prov {cfg : Config} (hg : cfg.grid.OK) (hid : IdsNodup cfg) {l : Link}
    (hl : l.Valid cfg.grid) {a b : Nat} {e : Pair} (h : e ∈ linkPairs cfg l a b) :
    ∃ l' u v, (l' = l ∨ l' = l.flip) ∧ u ∈ cfg.parts ∧ v ∈ cfg.parts ∧ u.id ≠ v.id ∧
      (u.cell = l'.first ∧ u.colour = a) ∧ (v.cell = l'.second ∧ v.colour = b) ∧
      ¬(u.frozen = true ∧ v.frozen = true) ∧
      normSq (l'.vec cfg.grid u.r v.r) < cfg.cut a b * cfg.cut a b ∧
      e = mkLinkPair cfg.grid l' u v := by
  unfold linkPairs at h
  rw [slots_eq, hl.cellDist_eq hg] at h
  by_cases hloc : l.first = l.second
  · have ho := (hl.local_iff hg).1 hloc
    rw [if_pos hloc] at h
    by_cases hab : a = b
    · -- one colour in one cell: the `ForSame` call for the free ones, one call free–frozen
      subst hab
      rw [if_pos rfl, List.flatMap_cons, List.flatMap_cons, List.flatMap_nil, List.append_nil,
        List.mem_append] at h
      rcases h with h | h
      · obtain ⟨p, q, hsub, he⟩ := mem_forSame.1 h
        obtain ⟨hp, cp, ca, fp⟩ := mem_cellParts.1 (hsub.subset (List.mem_cons_self ..))
        obtain ⟨hq, cq, cb, fq⟩ :=
          mem_cellParts.1 (hsub.subset (List.mem_cons_of_mem _ (List.mem_cons_self ..)))
        have he' := addPair_loc (g := cfg.grid) hloc ho (cfg.cut a a * cfg.cut a a)
          (cfg.grid.cellDist l.o) p q
        rw [fp, fq] at he'
        obtain ⟨n, rfl⟩ := Option.ite_some_none_eq_some.1 (he'.symm.trans he)
        exact ⟨l, p, q, Or.inl rfl, hp, hq,
          pairwise_of_sublist_pair (R := IdNe) hid (hsub.trans (cellParts_sublist ..)), ⟨cp, ca⟩,
          ⟨cq.trans hloc, cb⟩, fun h => Bool.false_ne_true (fp.symm.trans h.1), n, rfl⟩
      · obtain ⟨p, q, ⟨hp, cp, ca, fp⟩, ⟨hq, cq, cb, fq⟩, he⟩ := mem_runSlot_diff.1 h
        have he' := addPair_loc (g := cfg.grid) hloc ho (cfg.cut a a * cfg.cut a a)
          (cfg.grid.cellDist l.o) p q
        rw [fp, fq] at he'
        obtain ⟨n, rfl⟩ := Option.ite_some_none_eq_some.1 (he'.symm.trans he)
        exact ⟨l, p, q, Or.inl rfl, hp, hq, fun e => by
            rw [hid.eq_of_id hp hq e, fq] at fp; exact Bool.false_ne_true fp.symm, ⟨cp, ca⟩,
          ⟨cq.trans hloc, cb⟩, fun h => Bool.false_ne_true (fp.symm.trans h.1), n, rfl⟩
    · rw [if_neg hab] at h
      obtain ⟨p, q, hp, hq, ⟨cp, ca⟩, ⟨cq, cb⟩, hfr, he⟩ := (mem_block fun _ => mem_flags.1).1 h
      rw [addPair_loc hloc ho, Option.ite_some_none_eq_some] at he
      exact ⟨l, p, q, Or.inl rfl, hp, hq, fun e => hab (by rw [← ca, ← cb, hid.eq_of_id hp hq e]),
        ⟨cp, ca⟩, ⟨cq.trans hloc, cb⟩, hfr, he.1, he.2.symm⟩
  · rw [if_neg hloc, List.flatMap_append, List.mem_append] at h
    rcases h with h | h
    · by_cases hab : a = b
      · rw [if_pos hab] at h; cases h
      · rw [if_neg hab] at h
        obtain ⟨p, q, hp, hq, cp, cq, hfr, he⟩ := (mem_block fun _ => mem_flags.1).1 h
        rw [addPair_fwd, Option.ite_some_none_eq_some] at he
        exact ⟨l, p, q, Or.inl rfl, hp, hq,
          fun e => hab (by rw [← cp.2, ← cq.2, hid.eq_of_id hp hq e]), cp, cq, hfr, he.1, he.2.symm⟩
    · obtain ⟨p, q, hp, hq, cp, cq, hfr, he⟩ := (mem_block fun _ => mem_flags.2).1 h
      rw [addPair_bwd _ _ hl.2.1, Option.ite_some_none_eq_some] at he
      exact ⟨l.flip, p, q, Or.inr rfl, hp, hq,
        fun e => hloc (by rw [← cq.1, ← cp.1, hid.eq_of_id hp hq e]), cp, cq, hfr, he.1, he.2.symm⟩

/-! ### No duplicates -/

theorem vec_unique {g : Grid} (hg : g.OK) {rc : Rat} (hc : CutOK g rc) {l1 l2 : Link}
    (h1 : l1.Valid g) (h2 : l2.Valid g) (ef : l1.first = l2.first) (es : l1.second = l2.second)
    {r1 r2 : V3 Rat} (n1 : normSq (l1.vec g r1 r2) < rc * rc)
    (n2 : normSq (l2.vec g r1 r2) < rc * rc) : l1 = l2 := by
  obtain ⟨f1, s1, ⟨ox1, oy1, oz1⟩⟩ := l1
  obtain ⟨f2, s2, ⟨ox2, oy2, oz2⟩⟩ := l2
  obtain ⟨c0, cx, cy, cz⟩ := hc
  obtain ⟨ax, ay, az⟩ := comp_lt_of_normSq c0 n1
  obtain ⟨bx, by', bz⟩ := comp_lt_of_normSq c0 n2
  obtain ⟨_, o1, nb1⟩ := h1
  obtain ⟨_, o2, nb2⟩ := h2
  rw [Grid.nb_eq_some] at nb1 nb2
  subst ef es
  obtain rfl : ox1 = ox2 := axis_unique hg.1 cx o1.1 o2.1 nb1.1 nb2.1 ax bx
  obtain rfl : oy1 = oy2 := axis_unique hg.2.1 cy o1.2.1 o2.2.1 nb1.2.1 nb2.2.1 ay by'
  obtain rfl : oz1 = oz2 := axis_unique hg.2.2 cz o1.2.2 o2.2.2 nb1.2.2 nb2.2.2 az bz
  rfl

theorem Pair.same.symm {e1 e2 : Pair} (h : e1.same e2) : e2.same e1 := by
  rcases h with ⟨a, b⟩ | ⟨a, b⟩
  · exact Or.inl ⟨a.symm, b.symm⟩
  · exact Or.inr ⟨b.symm, a.symm⟩

theorem Pair.same.trans {e1 e2 e3 : Pair} (h : e1.same e2) (h' : e2.same e3) : e1.same e3 := by
  rcases h with ⟨a, b⟩ | ⟨a, b⟩ <;> rcases h' with ⟨c, d⟩ | ⟨c, d⟩
  · exact Or.inl ⟨a.trans c, b.trans d⟩
  · exact Or.inr ⟨a.trans c, b.trans d⟩
  · exact Or.inr ⟨a.trans d, b.trans c⟩
  · exact Or.inl ⟨a.trans d, b.trans c⟩

theorem Pair.same_swap (e : Pair) : e.swap.same e := Or.inr ⟨rfl, rfl⟩

theorem Link.flip_eq_iff {l1 l2 : Link} : l1.flip = l2 ↔ l1 = l2.flip :=
  ⟨fun h => by rw [← h, Link.flip_flip], fun h => by rw [h, Link.flip_flip]⟩

theorem linkPairs_same_link {cfg : Config} (hg : cfg.grid.OK) (hid : IdsNodup cfg) {a b : Nat}
    (hc : CutOK cfg.grid (cfg.cut a b)) {l1 l2 : Link}
    (h1 : l1.Valid cfg.grid) (h2 : l2.Valid cfg.grid) {e1 e2 : Pair}
    (he1 : e1 ∈ linkPairs cfg l1 a b) (he2 : e2 ∈ linkPairs cfg l2 a b) (hs : e1.same e2) :
    l1 = l2 ∨ l1 = l2.flip := by
  obtain ⟨k1, u1, v1, s1, hu1, hv1, _, ⟨cu1, _⟩, ⟨cv1, _⟩, _, n1, rfl⟩ := linkPairs_prov hg hid h1 he1
  obtain ⟨k2, u2, v2, s2, hu2, hv2, _, ⟨cu2, _⟩, ⟨cv2, _⟩, _, n2, rfl⟩ := linkPairs_prov hg hid h2 he2
  have w1 : k1.Valid cfg.grid := s1.elim (fun h => h ▸ h1) (fun h => h ▸ h1.flip hg)
  have w2 : k2.Valid cfg.grid := s2.elim (fun h => h ▸ h2) (fun h => h ▸ h2.flip hg)
  have key : k1 = k2 ∨ k1 = k2.flip := by
    rcases hs with ⟨eu, ev⟩ | ⟨eu, ev⟩
    · obtain rfl := hid.eq_of_id hu1 hu2 eu
      obtain rfl := hid.eq_of_id hv1 hv2 ev
      exact Or.inl (vec_unique hg hc w1 w2 (cu1.symm.trans cu2) (cv1.symm.trans cv2) n1 n2)
    · obtain rfl := hid.eq_of_id hu1 hv2 eu
      obtain rfl := hid.eq_of_id hv1 hu2 ev
      refine Or.inr (vec_unique hg hc w1 (w2.flip hg) (cu1.symm.trans cv2) (cv1.symm.trans cu2) n1 ?_)
      rw [Link.flip_vec w2.2.1, normSq_vnegR]
      exact n2
  -- `k1`, `k2` are `l1`, `l2` up to the side
  rcases s1 with rfl | rfl <;> rcases s2 with rfl | rfl
  · exact key
  · rw [Link.flip_flip] at key; exact key.symm
  · rw [Link.flip_eq_iff, Link.flip_eq_iff, Link.flip_flip] at key; exact key.symm
  · rw [Link.flip_eq_iff, Link.flip_eq_iff, Link.flip_flip] at key; exact key

/-- Within a block no unordered pair is produced twice: the calls differ in a frozen flag, and the
two roles cannot be exchanged because the cells or the colours differ. -/
theorem pairwise_block {cfg : Config} (hid : IdsNodup cfg) (rc2 : Rat) (cd : V3 Rat) {dir : Int}
    {c1 c2 : V3 Int} {a b : Nat} (h : ¬(c1 = c2 ∧ a = b)) {fs : List (Bool × Bool)}
    (hfs : fs.Nodup) :
    ((fs.map (Slot.diff dir c1 c2 a b)).flatMap (runSlot cfg rc2 cd)).Pairwise
      (fun e e' => ¬ e.same e') := by
  have hi := addPair_ids cfg.grid rc2 dir c1 c2 cd
  rw [List.pairwise_flatMap]
  refine ⟨fun s hs => ?_, List.pairwise_map.2 ((List.nodup_iff_pairwise_ne.1 hfs).imp ?_)⟩
  · obtain ⟨f, _, rfl⟩ := List.mem_map.1 hs
    refine pairwise_forDifferent (hi _ _) (cellParts_pairwise hid ..) (cellParts_pairwise hid ..) ?_
    intro p hp q hq e
    rw [mem_cellParts] at hp hq
    obtain rfl := hid.eq_of_id hp.1 hq.1 e
    exact h ⟨hp.2.1.symm.trans hq.2.1, hp.2.2.1.symm.trans hq.2.2.1⟩
  · intro f f' hne e he e' he' hs
    obtain ⟨p, q, hp, hq, he⟩ := mem_runSlot_diff.1 he
    obtain ⟨p', q', hp', hq', he'⟩ := mem_runSlot_diff.1 he'
    rcases (hi _ _).of_same (hi _ _) he he' hs with ⟨e1, e2⟩ | ⟨e1, e2⟩
    · obtain rfl := hid.eq_of_id hp.1 hp'.1 e1
      obtain rfl := hid.eq_of_id hq.1 hq'.1 e2
      exact hne (Prod.ext (hp.2.2.2.symm.trans hp'.2.2.2) (hq.2.2.2.symm.trans hq'.2.2.2))
    · obtain rfl := hid.eq_of_id hp.1 hq'.1 e1
      exact h ⟨hp.2.1.symm.trans hq'.2.1, hp.2.2.1.symm.trans hq'.2.2.1⟩

theorem linkPairs_pairwise {cfg : Config} (hid : IdsNodup cfg) (l : Link) (a b : Nat) :
    (linkPairs cfg l a b).Pairwise (fun e e' => ¬ e.same e') := by
  have hi := addPair_ids cfg.grid (cfg.cut a b * cfg.cut a b)
  unfold linkPairs
  rw [slots_eq]
  by_cases hloc : l.first = l.second
  · rw [if_pos hloc]
    by_cases hab : a = b
    · subst hab
      rw [if_pos rfl, List.flatMap_cons, List.flatMap_cons, List.flatMap_nil, List.append_nil,
        List.pairwise_append]
      refine ⟨pairwise_forSame (hi _ _ _ _ _ _) (cellParts_pairwise hid ..),
        pairwise_forDifferent (hi _ _ _ _ _ _) (cellParts_pairwise hid ..)
          (cellParts_pairwise hid ..) ?_, ?_⟩
      · intro p hp q hq e
        rw [mem_cellParts] at hp hq
        rw [hid.eq_of_id hp.1 hq.1 e] at hp
        exact Bool.false_ne_true (hp.2.2.2.symm.trans hq.2.2.2)
      · -- both partners free against a frozen second partner
        intro e he e' he' hs
        obtain ⟨p, q, hsub, he⟩ := mem_forSame.1 he
        obtain ⟨hp, _, _, fp⟩ := mem_cellParts.1 (hsub.subset (List.mem_cons_self ..))
        obtain ⟨hq, _, _, fq⟩ :=
          mem_cellParts.1 (hsub.subset (List.mem_cons_of_mem _ (List.mem_cons_self ..)))
        obtain ⟨p', q', _, ⟨hq', _, _, fq'⟩, he'⟩ := mem_runSlot_diff.1 he'
        rcases (hi _ _ _ _ _ _).of_same (hi _ _ _ _ _ _) he he' hs with ⟨_, e2⟩ | ⟨e1, _⟩
        · rw [hid.eq_of_id hq hq' e2, fq'] at fq; exact Bool.false_ne_true fq.symm
        · rw [hid.eq_of_id hp hq' e1, fq'] at fp; exact Bool.false_ne_true fp.symm
    · rw [if_neg hab]; exact pairwise_block hid _ _ (fun h => hab h.2) (by decide)
  · rw [if_neg hloc, List.flatMap_append, List.pairwise_append]
    refine ⟨?_, pairwise_block hid _ _ (fun h => hloc h.1.symm) (by decide), ?_⟩ <;>
      by_cases hab : a = b
    · rw [if_pos hab]; exact List.Pairwise.nil
    · rw [if_neg hab]; exact pairwise_block hid _ _ (fun h => hab h.2) (by decide)
    · rw [if_pos hab]; intro e he; cases he
    · -- first partner in `first` with colour `a` against first partner in `second` or colour `b`
      rw [if_neg hab]
      intro e he e' he' hs
      obtain ⟨p, q, hp, hq, ⟨cp, ca⟩, ⟨cq, cb⟩, _, he⟩ := (mem_block fun _ => mem_flags.1).1 he
      obtain ⟨p', q', hp', hq', ⟨cp', ca'⟩, ⟨cq', cb'⟩, _, he'⟩ :=
        (mem_block fun _ => mem_flags.2).1 he'
      rcases (hi _ _ _ _ _ _).of_same (hi _ _ _ _ _ _) he he' hs with ⟨e1, _⟩ | ⟨e1, _⟩
      · obtain rfl := hid.eq_of_id hp hp' e1
        exact hloc (cp.symm.trans cp')
      · obtain rfl := hid.eq_of_id hp hq' e1
        exact hab (ca.symm.trans cb')

/-- None listed twice. -/
theorem cellPairs_pairwise {cfg : Config} (hg : cfg.grid.OK) (hid : IdsNodup cfg) {a b : Nat}
    (hc : CutOK cfg.grid (cfg.cut a b)) {links : List Link} (hl : LinkSetOK cfg.grid links) :
    (cellPairs cfg links a b).Pairwise (fun e e' => ¬ e.same e') := by
  unfold cellPairs
  rw [List.pairwise_flatMap]
  refine ⟨fun l _ => linkPairs_pairwise hid l a b, (hl.nodup.filter _).imp_of_mem ?_⟩
  intro l1 l2 h1 h2 hne e1 he1 e2 he2 hs
  have v1 := hl.valid l1 (List.mem_filter.1 h1).1
  have v2 := hl.valid l2 (List.mem_filter.1 h2).1
  rcases linkPairs_same_link hg hid hc v1 v2 he1 he2 hs with e | e
  · exact hne.1 e
  · exact hne.2 e

/-! ### Soundness -/

theorem Axis.OK.neg_half_lt {a : Axis} (h : a.OK) {rc s : Rat} (hrc : rc ≤ a.w) (hs : -rc < s) :
    -(a.L / 2) < s :=
  Std.lt_of_le_of_lt (Rat.neg_le_neg (Rat.le_trans hrc h.L_facts.2)) hs

theorem vec_eq_sepV {g : Grid} (hg : g.OK) {rc : Rat} (hc : CutOK g rc) {l : Link}
    (hl : l.Valid g) {r1 r2 : V3 Rat} (n : normSq (l.vec g r1 r2) < rc * rc) :
    l.vec g r1 r2 = g.sepV r1 r2 := by
  obtain ⟨c0, cx, cy, cz⟩ := hc
  obtain ⟨ax, ay, az⟩ := comp_lt_of_normSq c0 n
  obtain ⟨_, ho, nb⟩ := hl
  rw [Grid.nb_eq_some] at nb
  simp only [Link.vec, Grid.sepV, axis_sound_sep hg.1 cx ho.1 nb.1 ax,
    axis_sound_sep hg.2.1 cy ho.2.1 nb.2.1 ay, axis_sound_sep hg.2.2 cz ho.2.2 nb.2.2 az]

theorem vec_image {g : Grid} {l : Link} (hl : l.Valid g) (r1 r2 : V3 Rat) :
    IsImage g r1 r2 (l.vec g r1 r2) := by
  obtain ⟨hin, ho, nb⟩ := hl
  rw [Grid.nb_eq_some] at nb
  obtain ⟨kx, ox, px, ex⟩ := axis_sound hin.1 ho.1 nb.1 r1.x r2.x
  obtain ⟨ky, oy, py, ey⟩ := axis_sound hin.2.1 ho.2.1 nb.2.1 r1.y r2.y
  obtain ⟨kz, oz, pz, ez⟩ := axis_sound hin.2.2 ho.2.2 nb.2.2 r1.z r2.z
  exact ⟨⟨kx, ky, kz⟩, ⟨ox, oy, oz⟩, px, py, pz, ex, ey, ez⟩

theorem sepV_neg {g : Grid} (hg : g.OK) {rc : Rat} (hc : CutOK g rc) {r1 r2 : V3 Rat}
    (n : normSq (g.sepV r1 r2) < rc * rc) : g.sepV r2 r1 = vnegR (g.sepV r1 r2) := by
  obtain ⟨c0, cx, cy, cz⟩ := hc
  obtain ⟨ax, ay, az⟩ := comp_lt_of_normSq c0 n
  simp only [Grid.sepV, vnegR, sep_neg hg.1 (hg.1.neg_half_lt cx ax.1),
    sep_neg hg.2.1 (hg.2.1.neg_half_lt cy ay.1), sep_neg hg.2.2 (hg.2.2.neg_half_lt cz az.1)]

theorem mkPair_swap {g : Grid} (hg : g.OK) {rc : Rat} (hc : CutOK g rc) {p q : Particle}
    (n : normSq (g.sepV p.r q.r) < rc * rc) : mkPair g q p = (mkPair g p q).swap := by
  simp only [mkPair, Pair.swap, sepV_neg hg hc n]

/-- Soundness.  Needs no containment hypothesis. -/
theorem cellPairs_sound {cfg : Config} (hg : cfg.grid.OK) (hid : IdsNodup cfg) {a b : Nat}
    (hc : CutOK cfg.grid (cfg.cut a b)) {links : List Link}
    (hl : ∀ l, l ∈ links → l.Valid cfg.grid) {e : Pair} (he : e ∈ cellPairs cfg links a b) :
    ∃ p q, InBrute cfg (cfg.cut a b) a b p q ∧ e = mkPair cfg.grid p q ∧
      IsImage cfg.grid p.r q.r e.d := by
  unfold cellPairs at he
  obtain ⟨l, hlm, he⟩ := List.mem_flatMap.1 he
  have hv := hl l (List.mem_filter.1 hlm).1
  obtain ⟨k, u, v, hk, hu, hv', hne, ⟨_, ca⟩, ⟨_, cb⟩, hfr, n, rfl⟩ := linkPairs_prov hg hid hv he
  have hvk : k.Valid cfg.grid := hk.elim (fun h => h ▸ hv) (fun h => h ▸ hv.flip hg)
  have hsep := vec_eq_sepV hg hc hvk n
  refine ⟨u, v, ⟨hu, hv', hne, ca, cb, hfr, by rw [← hsep]; exact n⟩, ?_, vec_image hvk u.r v.r⟩
  simp only [mkLinkPair, mkPair, hsep]

/-! ### Completeness -/

theorem exists_link {g : Grid} (hg : g.OK) {ε : Rat} {cp cq : V3 Int} {rp rq : V3 Rat}
    (hp : g.x.Contains ε cp.x rp.x ∧ g.y.Contains ε cp.y rp.y ∧ g.z.Contains ε cp.z rp.z)
    (hq : g.x.Contains ε cq.x rq.x ∧ g.y.Contains ε cq.y rq.y ∧ g.z.Contains ε cq.z rq.z)
    {rc' : Rat} (h0 : 0 < rc')
    (hw : rc' ≤ g.x.w - 2 * ε ∧ rc' ≤ g.y.w - 2 * ε ∧ rc' ≤ g.z.w - 2 * ε)
    (n : normSq (g.sepV rp rq) < rc' * rc') :
    ∃ o, (⟨cp, cq, o⟩ : Link).Valid g ∧ (⟨cp, cq, o⟩ : Link).vec g rp rq = g.sepV rp rq := by
  obtain ⟨ax, ay, az⟩ := comp_lt_of_normSq h0 n
  obtain ⟨ox, o1, n1, d1⟩ := axis_complete_sep hg.1.1 hp.1 hq.1 hw.1 ax
  obtain ⟨oy, o2, n2, d2⟩ := axis_complete_sep hg.2.1.1 hp.2.1 hq.2.1 hw.2.1 ay
  obtain ⟨oz, o3, n3, d3⟩ := axis_complete_sep hg.2.2.1 hp.2.2 hq.2.2 hw.2.2 az
  refine ⟨⟨ox, oy, oz⟩, ⟨⟨hp.1.1, hp.2.1.1, hp.2.2.1⟩, ⟨o1, o2, o3⟩, Grid.nb_eq_some.2 ⟨n1, n2, n3⟩⟩, ?_⟩
  simp only [Link.vec, Grid.sepV, d1, d2, d3]

theorem linkPairs_complete {cfg : Config} (hg : cfg.grid.OK) {l : Link} (hl : l.Valid cfg.grid)
    {a b : Nat} {u v : Particle} (hu : u ∈ cfg.parts) (hv : v ∈ cfg.parts) (hne : u ≠ v)
    (cu : u.cell = l.first) (cv : v.cell = l.second)
    (hcol : (u.colour = a ∧ v.colour = b) ∨ (u.colour = b ∧ v.colour = a))
    (hfr : ¬(u.frozen = true ∧ v.frozen = true))
    (n : normSq (l.vec cfg.grid u.r v.r) < cfg.cut a b * cfg.cut a b) :
    ∃ e, e ∈ linkPairs cfg l a b ∧ e.same (mkLinkPair cfg.grid l u v) := by
  have hfr' : ¬(v.frozen = true ∧ u.frozen = true) := fun h => hfr ⟨h.2, h.1⟩
  unfold linkPairs
  rw [slots_eq, hl.cellDist_eq hg]
  by_cases hloc : l.first = l.second
  · have ho := (hl.local_iff hg).1 hloc
    have cv' : v.cell = l.first := cv.trans hloc.symm
    have n' : normSq (l.vec cfg.grid v.r u.r) < cfg.cut a b * cfg.cut a b := by
      rw [Link.vec_local_symm hloc ho]; exact n
    rw [if_pos hloc]
    by_cases hab : a = b
    · -- one colour in one cell: the earlier of two free ones, or the free one, is listed first
      subst hab
      rw [if_pos rfl, List.flatMap_cons, List.flatMap_cons, List.flatMap_nil, List.append_nil]
      have ca : u.colour = a := hcol.elim And.left And.left
      have cb : v.colour = a := hcol.elim And.right And.right
      have eu := addPair_loc (g := cfg.grid) hloc ho (cfg.cut a a * cfg.cut a a)
        (cfg.grid.cellDist l.o) u v
      have ev := addPair_loc (g := cfg.grid) hloc ho (cfg.cut a a * cfg.cut a a)
        (cfg.grid.cellDist l.o) v u
      rw [if_pos n] at eu
      rw [if_pos n'] at ev
      cases fu : u.frozen <;> cases fv : v.frozen <;> rw [fu, fv] at eu ev
      · rcases sublist_pair_of_mem (mem_cellParts.2 ⟨hu, cu, ca, fu⟩)
          (mem_cellParts.2 ⟨hv, cv', cb, fv⟩) hne with hs | hs
        · exact ⟨_, List.mem_append_left _ (mem_forSame.2 ⟨u, v, hs, eu⟩), Or.inl ⟨rfl, rfl⟩⟩
        · exact ⟨_, List.mem_append_left _ (mem_forSame.2 ⟨v, u, hs, ev⟩), Or.inr ⟨rfl, rfl⟩⟩
      · exact ⟨_, List.mem_append_right _ (mem_runSlot_diff.2
          ⟨u, v, ⟨hu, cu, ca, fu⟩, ⟨hv, cv', cb, fv⟩, eu⟩), Or.inl ⟨rfl, rfl⟩⟩
      · exact ⟨_, List.mem_append_right _ (mem_runSlot_diff.2
          ⟨v, u, ⟨hv, cv', cb, fv⟩, ⟨hu, cu, ca, fu⟩, ev⟩), Or.inr ⟨rfl, rfl⟩⟩
      · exact absurd ⟨fu, fv⟩ hfr
    · rw [if_neg hab]
      rcases hcol with ⟨ca, cb⟩ | ⟨ca, cb⟩
      · exact ⟨_, (mem_block fun _ => mem_flags.1).2 ⟨u, v, hu, hv, ⟨cu, ca⟩, ⟨cv', cb⟩, hfr,
          by rw [addPair_loc hloc ho, if_pos n]⟩, Or.inl ⟨rfl, rfl⟩⟩
      · exact ⟨_, (mem_block fun _ => mem_flags.1).2 ⟨v, u, hv, hu, ⟨cv', cb⟩, ⟨cu, ca⟩, hfr',
          by rw [addPair_loc hloc ho, if_pos n']⟩, Or.inr ⟨rfl, rfl⟩⟩
  · rw [if_neg hloc, List.flatMap_append]
    by_cases hcb : u.colour = b ∧ v.colour = a
    · -- `else` branch of the colour loop, `dir = -1`, `v` listed first
      have n' : normSq (l.flip.vec cfg.grid v.r u.r) < cfg.cut a b * cfg.cut a b := by
        rw [Link.flip_vec hl.2.1, normSq_vnegR]; exact n
      exact ⟨_, List.mem_append_right _ ((mem_block fun _ => mem_flags.2).2 ⟨v, u, hv, hu,
        ⟨cv, hcb.2⟩, ⟨cu, hcb.1⟩, hfr', by rw [addPair_bwd _ _ hl.2.1, if_pos n']⟩),
        Or.inr ⟨rfl, rfl⟩⟩
    · have hca : u.colour = a ∧ v.colour = b := hcol.resolve_right hcb
      have hab : ¬ a = b := fun e => hcb ⟨hca.1.trans e, hca.2.trans e.symm⟩
      rw [if_neg hab]
      exact ⟨_, List.mem_append_left _ ((mem_block fun _ => mem_flags.1).2 ⟨u, v, hu, hv,
        ⟨cu, hca.1⟩, ⟨cv, hca.2⟩, hfr, by rw [addPair_fwd, if_pos n]⟩), Or.inl ⟨rfl, rfl⟩⟩

theorem occupied_of_mem {cfg : Config} {p : Particle} (hp : p ∈ cfg.parts) :
    cfg.occupied p.cell = true := by
  unfold Config.occupied
  rw [List.any_eq_true]
  exact ⟨p, hp, by simp⟩

/-- Completeness with slack `ε`, for the cutoff `rc - 2ε`. -/
theorem cellPairs_complete {cfg : Config} (hg : cfg.grid.OK) {ε : Rat} (hε : 0 ≤ ε)
    (hreg : Registered cfg ε) {a b : Nat} (hc : CutOK cfg.grid (cfg.cut a b)) {links : List Link}
    (hl : LinkSetOK cfg.grid links) (hpos : 0 < cfg.cut a b - 2 * ε) {p q : Particle}
    (h : InBrute cfg (cfg.cut a b - 2 * ε) a b p q) :
    ∃ e, e ∈ cellPairs cfg links a b ∧ e.same (mkPair cfg.grid p q) := by
  obtain ⟨hp, hq, hne, ca, cb, hfr, n⟩ := h
  obtain ⟨c0, cx, cy, cz⟩ := hc
  obtain ⟨o, hv, hvec⟩ := exists_link hg (hreg p hp) (hreg q hq) hpos
    ⟨sub_le_sub_right cx _, sub_le_sub_right cy _, sub_le_sub_right cz _⟩ n
  have n2 : normSq (cfg.grid.sepV p.r q.r) < cfg.cut a b * cfg.cut a b :=
    Std.lt_of_lt_of_le n (sq_le_sq (Rat.le_of_lt hpos) (Rat.sub_right_le_iff_le_add.2
      (le_add_of_nonneg _ (Rat.mul_nonneg (by decide) hε))))
  have hpq : p ≠ q := fun e => hne (by rw [e])
  have hact : ∀ l : Link, (l.first = p.cell ∧ l.second = q.cell) ∨
      (l.first = q.cell ∧ l.second = p.cell) → cfg.active l = true := by
    intro l h
    unfold Config.active
    rcases h with ⟨h1, h2⟩ | ⟨h1, h2⟩ <;>
      rw [h1, h2, occupied_of_mem hp, occupied_of_mem hq] <;> rfl
  rcases hl.complete p.cell o q.cell hv.1 hv.2.1 hv.2.2 with hm | hm
  · obtain ⟨e, he, hs⟩ := linkPairs_complete hg hv (a := a) (b := b) hp hq hpq rfl rfl
      (Or.inl ⟨ca, cb⟩) hfr (by rw [hvec]; exact n2)
    exact ⟨e, List.mem_flatMap.2 ⟨_, List.mem_filter.2 ⟨hm, hact _ (Or.inl ⟨rfl, rfl⟩)⟩, he⟩, hs⟩
  · obtain ⟨e, he, hs⟩ := linkPairs_complete hg (hv.flip hg) (a := a) (b := b) hq hp
      (fun e => hpq e.symm) rfl rfl (Or.inr ⟨cb, ca⟩) (fun h => hfr ⟨h.2, h.1⟩)
      (by rw [Link.flip_vec hv.2.1, normSq_vnegR, hvec]; exact n2)
    exact ⟨e, List.mem_flatMap.2 ⟨_, List.mem_filter.2 ⟨hm, hact _ (Or.inr ⟨rfl, rfl⟩)⟩, he⟩,
      hs.trans (Or.inr ⟨rfl, rfl⟩)⟩

/-! ### The reference list -/

theorem bruteF_eq_some {g : Grid} {rc2 : Rat} {p q : Particle} {e : Pair} :
    bruteF g rc2 p q = some e ↔
      ¬(p.frozen = true ∧ q.frozen = true) ∧ normSq (g.sepV p.r q.r) < rc2 ∧ e = mkPair g p q := by
  unfold bruteF
  rw [Option.ite_some_none_eq_some, eq_comm (a := mkPair g p q)]
  cases p.frozen <;> cases q.frozen <;> simp

theorem bruteF_ids (g : Grid) (rc2 : Rat) : IdsOf (bruteF g rc2) := by
  intro p q e h
  obtain ⟨_, _, rfl⟩ := bruteF_eq_some.1 h
  exact ⟨rfl, rfl⟩

theorem mem_filter_colour {cfg : Config} {a : Nat} {p : Particle} :
    p ∈ cfg.parts.filter (fun p => p.colour = a) ↔ p ∈ cfg.parts ∧ p.colour = a := by
  simp [List.mem_filter]

theorem bruteRc_sound {cfg : Config} (hid : IdsNodup cfg) {rc : Rat} {a b : Nat} {e : Pair}
    (h : e ∈ bruteRc cfg rc a b) : ∃ p q, InBrute cfg rc a b p q ∧ e = mkPair cfg.grid p q := by
  unfold bruteRc at h
  split at h
  · rename_i hab
    subst hab
    obtain ⟨p, q, hsub, he⟩ := mem_forSame.1 h
    obtain ⟨hfr, n, rfl⟩ := bruteF_eq_some.1 he
    have hp := mem_filter_colour.1 (hsub.subset (List.mem_cons_self ..))
    have hq := mem_filter_colour.1 (hsub.subset (List.mem_cons_of_mem _ (List.mem_cons_self ..)))
    have hne : p.id ≠ q.id :=
      pairwise_of_sublist_pair (R := IdNe) hid (hsub.trans List.filter_sublist)
    exact ⟨p, q, ⟨hp.1, hq.1, hne, hp.2, hq.2, hfr, n⟩, rfl⟩
  · rename_i hab
    obtain ⟨p, hp, q, hq, he⟩ := mem_forDifferent.1 h
    obtain ⟨hfr, n, rfl⟩ := bruteF_eq_some.1 he
    rw [mem_filter_colour] at hp hq
    exact ⟨p, q, ⟨hp.1, hq.1, fun e => hab (by rw [← hp.2, ← hq.2, hid.eq_of_id hp.1 hq.1 e]),
      hp.2, hq.2, hfr, n⟩, rfl⟩

theorem InBrute.symm {cfg : Config} (hg : cfg.grid.OK) {rc : Rat} {a : Nat} {p q : Particle}
    (h : InBrute cfg rc a a p q) : InBrute cfg rc a a q p := by
  obtain ⟨hp, hq, hne, ca, cb, hfr, n⟩ := h
  exact ⟨hq, hp, fun e => hne e.symm, cb, ca, fun h => hfr ⟨h.2, h.1⟩,
    by rw [normSq, Grid.sepV, sep_sq_symm hg.1, sep_sq_symm hg.2.1, sep_sq_symm hg.2.2]; exact n⟩

theorem bruteRc_complete {cfg : Config} (hg : cfg.grid.OK) {rc : Rat} {a b : Nat} {p q : Particle}
    (h : InBrute cfg rc a b p q) :
    mkPair cfg.grid p q ∈ bruteRc cfg rc a b ∨ (a = b ∧ mkPair cfg.grid q p ∈ bruteRc cfg rc a b) := by
  unfold bruteRc
  split
  · rename_i hab
    subst hab
    have h' := h.symm hg
    obtain ⟨hp, hq, hne, ca, cb, hfr, n⟩ := h
    have hpq : p ≠ q := fun e => hne (by rw [e])
    rcases sublist_pair_of_mem (mem_filter_colour.2 ⟨hp, ca⟩) (mem_filter_colour.2 ⟨hq, cb⟩) hpq
      with hs | hs
    · exact Or.inl (mem_forSame.2 ⟨p, q, hs, bruteF_eq_some.2 ⟨hfr, n, rfl⟩⟩)
    · exact Or.inr ⟨rfl, mem_forSame.2 ⟨q, p, hs, bruteF_eq_some.2 ⟨h'.2.2.2.2.2.1, h'.2.2.2.2.2.2, rfl⟩⟩⟩
  · obtain ⟨hp, hq, hne, ca, cb, hfr, n⟩ := h
    exact Or.inl (mem_forDifferent.2 ⟨p, mem_filter_colour.2 ⟨hp, ca⟩, q,
      mem_filter_colour.2 ⟨hq, cb⟩, bruteF_eq_some.2 ⟨hfr, n, rfl⟩⟩)

theorem bruteRc_pairwise {cfg : Config} (hid : IdsNodup cfg) (rc : Rat) (a b : Nat) :
    (bruteRc cfg rc a b).Pairwise (fun e e' => ¬ e.same e') := by
  unfold bruteRc
  have hs : ∀ c, (cfg.parts.filter (fun p => p.colour = c)).Pairwise IdNe :=
    fun c => List.Pairwise.sublist List.filter_sublist hid
  split
  · exact pairwise_forSame (bruteF_ids _ _) (hs a)
  · rename_i hab
    refine pairwise_forDifferent (bruteF_ids _ _) (hs a) (hs b) ?_
    intro p hp q hq e
    rw [mem_filter_colour] at hp hq
    exact hab (by rw [← hp.2, ← hq.2, hid.eq_of_id hp.1 hq.1 e])

/-! ### Permutation modulo orientation -/

theorem Pair.swap_swap (e : Pair) : e.swap.swap = e := by
  cases e; simp [Pair.swap, vnegR_vnegR]

theorem Pair.canon_same (e : Pair) : e.canon.same e := by
  unfold Pair.canon
  split
  · exact Or.inl ⟨rfl, rfl⟩
  · exact e.same_swap

theorem same_of_canon_eq {e1 e2 : Pair} (h : e1.canon = e2.canon) : e1.same e2 :=
  e1.canon_same.symm.trans (h ▸ e2.canon_same)

theorem canon_swap {e : Pair} (h : e.i ≠ e.j) : e.swap.canon = e.canon := by
  unfold Pair.canon
  by_cases h1 : e.i ≤ e.j
  · rw [if_pos h1, if_neg (by simp only [Pair.swap]; omega), Pair.swap_swap]
  · rw [if_neg h1, if_pos (by simp only [Pair.swap]; omega)]

theorem nodup_map_canon {l : List Pair} (h : l.Pairwise (fun e e' => ¬ e.same e')) :
    (l.map Pair.canon).Nodup := by
  rw [List.nodup_iff_pairwise_ne, List.pairwise_map]
  exact h.imp (fun hs he => hs (same_of_canon_eq he))

theorem canon_mkPair_swap {g : Grid} (hg : g.OK) {rc : Rat} (hc : CutOK g rc) {p q : Particle}
    (hne : p.id ≠ q.id) (n : normSq (g.sepV p.r q.r) < rc * rc) :
    (mkPair g q p).canon = (mkPair g p q).canon := by
  rw [mkPair_swap hg hc n]
  exact canon_swap hne

/-- `l` lists the pairs of the reference relation `InBrute cfg rc a b`, each unordered pair once, in one of
the two orientations. -/
structure Exact (cfg : Config) (rc : Rat) (a b : Nat) (l : List Pair) : Prop where
  sound : ∀ e, e ∈ l → ∃ p q, InBrute cfg rc a b p q ∧ e = mkPair cfg.grid p q
  complete : ∀ p q, InBrute cfg rc a b p q → ∃ e, e ∈ l ∧ e.same (mkPair cfg.grid p q)
  nodup : l.Pairwise (fun e e' => ¬ e.same e')

theorem Exact.canon_mem {cfg : Config} (hg : cfg.grid.OK) (hid : IdsNodup cfg) {rc : Rat}
    (hc : CutOK cfg.grid rc) {a b : Nat} {l1 l2 : List Pair} (h1 : Exact cfg rc a b l1)
    (h2 : Exact cfg rc a b l2) {x : Pair} (hx : x ∈ l1.map Pair.canon) : x ∈ l2.map Pair.canon := by
  obtain ⟨e, he, rfl⟩ := List.mem_map.1 hx
  obtain ⟨p, q, hb, rfl⟩ := h1.sound e he
  obtain ⟨e', he', hs⟩ := h2.complete p q hb
  obtain ⟨p', q', hb', rfl⟩ := h2.sound e' he'
  refine List.mem_map.2 ⟨_, he', ?_⟩
  rcases hs with ⟨e1, e2⟩ | ⟨e1, e2⟩
  · rw [hid.eq_of_id hb'.1 hb.1 e1, hid.eq_of_id hb'.2.1 hb.2.1 e2]
  · rw [hid.eq_of_id hb'.1 hb.2.1 e1, hid.eq_of_id hb'.2.1 hb.1 e2]
    exact canon_mkPair_swap hg hc hb.2.2.1 hb.2.2.2.2.2.2

theorem Exact.perm {cfg : Config} (hg : cfg.grid.OK) (hid : IdsNodup cfg) {rc : Rat}
    (hc : CutOK cfg.grid rc) {a b : Nat} {l1 l2 : List Pair} (h1 : Exact cfg rc a b l1)
    (h2 : Exact cfg rc a b l2) : (l1.map Pair.canon).Perm (l2.map Pair.canon) :=
  (List.perm_ext_iff_of_nodup (nodup_map_canon h1.nodup) (nodup_map_canon h2.nodup)).2
    fun _ => ⟨h1.canon_mem hg hid hc h2, h2.canon_mem hg hid hc h1⟩

theorem idsNodup_perm {cfg cfg' : Config} (hid : IdsNodup cfg) (hperm : cfg'.parts.Perm cfg.parts) :
    IdsNodup cfg' := by
  unfold IdsNodup at *
  exact (hperm.pairwise_iff (fun {a b} h => fun e => h e.symm)).2 hid

theorem Exact.of_perm {cfg cfg' : Config} (hgrid : cfg'.grid = cfg.grid)
    (hperm : cfg'.parts.Perm cfg.parts) {rc : Rat} {a b : Nat} {l : List Pair}
    (h : Exact cfg' rc a b l) : Exact cfg rc a b l := by
  have hiff : ∀ p q, InBrute cfg' rc a b p q ↔ InBrute cfg rc a b p q := fun p q => by
    unfold InBrute; rw [hgrid, hperm.mem_iff, hperm.mem_iff]
  obtain ⟨h1, h2, h3⟩ := h
  simp only [hiff, hgrid] at h1 h2
  exact ⟨h1, h2, h3⟩

theorem brute_exact {cfg : Config} (hg : cfg.grid.OK) (hid : IdsNodup cfg) (a b : Nat) :
    Exact cfg (cfg.cut a b) a b (brute cfg a b) where
  sound _ he := bruteRc_sound hid he
  complete p q h := by
    rcases bruteRc_complete hg h with h | ⟨_, h⟩
    · exact ⟨_, h, Or.inl ⟨rfl, rfl⟩⟩
    · exact ⟨_, h, Or.inr ⟨rfl, rfl⟩⟩
  nodup := bruteRc_pairwise hid _ a b

theorem cellPairs_complete_zero {cfg : Config} (hg : cfg.grid.OK) (hreg : Registered cfg 0)
    {a b : Nat} (hc : CutOK cfg.grid (cfg.cut a b)) {links : List Link}
    (hl : LinkSetOK cfg.grid links) {p q : Particle} (h : InBrute cfg (cfg.cut a b) a b p q) :
    ∃ e, e ∈ cellPairs cfg links a b ∧ e.same (mkPair cfg.grid p q) :=
  cellPairs_complete hg Rat.le_refl hreg hc hl (by rw [sub_two_mul_zero]; exact hc.1)
    (by rw [sub_two_mul_zero]; exact h)

theorem cellPairs_exact {cfg : Config} (hg : cfg.grid.OK) (hid : IdsNodup cfg)
    (hreg : Registered cfg 0) {a b : Nat} (hc : CutOK cfg.grid (cfg.cut a b)) {links : List Link}
    (hl : LinkSetOK cfg.grid links) : Exact cfg (cfg.cut a b) a b (cellPairs cfg links a b) where
  sound e he := by
    obtain ⟨p, q, hb, h, _⟩ := cellPairs_sound hg hid hc hl.valid he
    exact ⟨p, q, hb, h⟩
  complete _ _ h := cellPairs_complete_zero hg hreg hc hl h
  nodup := cellPairs_pairwise hg hid hc hl

/-- Exactness: with every particle registered in the cell that contains it. -/
theorem cellPairs_perm_brute {cfg : Config} (hg : cfg.grid.OK) (hid : IdsNodup cfg)
    (hreg : Registered cfg 0) {a b : Nat} (hc : CutOK cfg.grid (cfg.cut a b)) {links : List Link}
    (hl : LinkSetOK cfg.grid links) :
    ((cellPairs cfg links a b).map Pair.canon).Perm ((brute cfg a b).map Pair.canon) :=
  (cellPairs_exact hg hid hreg hc hl).perm hg hid hc (brute_exact hg hid a b)

/-! ### The canonical link set satisfies `LinkSetOK` -/

theorem inRange_iff {a : Axis} {i : Int} : a.InRange i ↔ ∃ m, m < a.n ∧ (m : Int) = i := by
  unfold Axis.InRange
  constructor
  · intro h; exact ⟨i.toNat, by omega, by omega⟩
  · rintro ⟨m, hm, rfl⟩; omega

theorem mem_cells {g : Grid} {c : V3 Int} : c ∈ g.cells ↔ g.InGrid c := by
  obtain ⟨x, y, z⟩ := c
  simp only [Grid.cells, Grid.InGrid, inRange_iff, List.mem_flatMap, List.mem_map, List.mem_range,
    V3.mk.injEq]
  constructor
  · rintro ⟨k, hk, j, hj, i, hi, rfl, rfl, rfl⟩
    exact ⟨⟨i, hi, rfl⟩, ⟨j, hj, rfl⟩, ⟨k, hk, rfl⟩⟩
  · rintro ⟨⟨i, hi, rfl⟩, ⟨j, hj, rfl⟩, ⟨k, hk, rfl⟩⟩
    exact ⟨k, hk, j, hj, i, hi, rfl, rfl, rfl⟩

theorem cells_nodup (g : Grid) : g.cells.Nodup := by
  unfold Grid.cells
  rw [List.nodup_iff_pairwise_ne, List.pairwise_flatMap]
  refine ⟨fun k _ => ?_, ?_⟩
  · rw [List.pairwise_flatMap]
    refine ⟨fun j _ => ?_, ?_⟩
    · rw [List.pairwise_map]
      exact (List.nodup_iff_pairwise_ne.1 List.nodup_range).imp (by
        intro i i' h e; injection e with e; exact h (by omega))
    · exact (List.nodup_iff_pairwise_ne.1 List.nodup_range).imp (by
        intro j j' h x hx y hy e
        obtain ⟨i, _, rfl⟩ := List.mem_map.1 hx
        obtain ⟨i', _, rfl⟩ := List.mem_map.1 hy
        injection e with _ e; exact h (by omega))
  · exact (List.nodup_iff_pairwise_ne.1 List.nodup_range).imp (by
      intro k k' h x hx y hy e
      obtain ⟨j, _, hx⟩ := List.mem_flatMap.1 hx
      obtain ⟨i, _, rfl⟩ := List.mem_map.1 hx
      obtain ⟨j', _, hy⟩ := List.mem_flatMap.1 hy
      obtain ⟨i', _, rfl⟩ := List.mem_map.1 hy
      injection e with _ _ e; exact h (by omega))

theorem halfOffsets_isOff : ∀ o, o ∈ halfOffsets → IsOff o := by decide +kernel

theorem halfOffsets_nodup : halfOffsets.Nodup := by decide +kernel

theorem halfOffsets_neg : ∀ o, o ∈ halfOffsets → vneg o ∈ halfOffsets → o = ⟨0, 0, 0⟩ := by
  decide +kernel

theorem halfOffsets_cover {o : V3 Int} (h : IsOff o) : o ∈ halfOffsets ∨ vneg o ∈ halfOffsets := by
  have key : ∀ x ∈ ([-1, 0, 1] : List Int), ∀ y ∈ ([-1, 0, 1] : List Int),
      ∀ z ∈ ([-1, 0, 1] : List Int),
      (⟨x, y, z⟩ : V3 Int) ∈ halfOffsets ∨ vneg ⟨x, y, z⟩ ∈ halfOffsets := by decide +kernel
  have mem : ∀ {i : Int}, IsOff1 i → i ∈ ([-1, 0, 1] : List Int) := fun h => by
    simpa [IsOff1] using h
  exact key _ (mem h.1) _ (mem h.2.1) _ (mem h.2.2)

theorem mem_allLinks {g : Grid} {l : Link} :
    l ∈ g.allLinks ↔ g.InGrid l.first ∧ l.o ∈ halfOffsets ∧ g.nb l.first l.o = some l.second := by
  unfold Grid.allLinks
  simp only [List.mem_flatMap, List.mem_filterMap, Option.map_eq_some_iff, mem_cells]
  constructor
  · rintro ⟨c, hc, o, ho, c', hnb, rfl⟩
    exact ⟨hc, ho, hnb⟩
  · rintro ⟨hc, ho, hnb⟩
    exact ⟨l.first, hc, l.o, ho, l.second, hnb, rfl⟩

theorem allLinks_nodup (g : Grid) : g.allLinks.Nodup := by
  unfold Grid.allLinks
  rw [List.nodup_iff_pairwise_ne, List.pairwise_flatMap]
  refine ⟨fun c _ => ?_, ?_⟩
  · rw [List.pairwise_filterMap]
    refine (List.nodup_iff_pairwise_ne.1 halfOffsets_nodup).imp ?_
    intro o o' hne l hl l' hl' e
    obtain ⟨c1, _, rfl⟩ := Option.map_eq_some_iff.1 hl
    obtain ⟨c2, _, rfl⟩ := Option.map_eq_some_iff.1 hl'
    injection e with _ _ e
    exact hne e
  · refine (List.nodup_iff_pairwise_ne.1 (cells_nodup g)).imp ?_
    intro c c' hne l hl l' hl' e
    obtain ⟨o, _, hl⟩ := List.mem_filterMap.1 hl
    obtain ⟨o', _, hl'⟩ := List.mem_filterMap.1 hl'
    obtain ⟨c1, _, rfl⟩ := Option.map_eq_some_iff.1 hl
    obtain ⟨c2, _, rfl⟩ := Option.map_eq_some_iff.1 hl'
    injection e with e _ _
    exact hne e

/-- Non-vacuity of `LinkSetOK`. -/
theorem allLinks_ok {g : Grid} (hg : g.OK) : LinkSetOK g g.allLinks := by
  have hvalid : ∀ l, l ∈ g.allLinks → l.Valid g := by
    intro l hl
    obtain ⟨h1, h2, h3⟩ := mem_allLinks.1 hl
    exact ⟨h1, halfOffsets_isOff _ h2, h3⟩
  refine ⟨hvalid, ?_, ?_⟩
  · intro c o c' hc ho hnb
    rcases halfOffsets_cover ho with h | h
    · exact Or.inl (mem_allLinks.2 ⟨hc, h, hnb⟩)
    · have hv : (⟨c, c', o⟩ : Link).Valid g := ⟨hc, ho, hnb⟩
      have := hv.flip hg
      exact Or.inr (mem_allLinks.2 ⟨this.1, h, this.2.2⟩)
  · have hnd := List.nodup_iff_pairwise_ne.1 (allLinks_nodup g)
    refine hnd.imp_of_mem ?_
    intro l1 l2 h1 h2 hne
    refine ⟨hne, fun e => hne ?_⟩
    obtain ⟨_, o1, _⟩ := mem_allLinks.1 h1
    obtain ⟨_, o2, _⟩ := mem_allLinks.1 h2
    have ho : l2.o = ⟨0, 0, 0⟩ := by
      apply halfOffsets_neg _ o2
      have : l1.o = vneg l2.o := by rw [e]; rfl
      rw [← this]; exact o1
    have hloc := ((hvalid l2 h2).local_iff hg).2 ho
    rw [e]
    cases l2 with | mk f s o =>
    simp only at ho hloc
    subst ho; subst hloc
    simp [Link.flip, vneg]

theorem registered_of_cellOf {cfg : Config} (hg : cfg.grid.OK)
    (h : ∀ p, p ∈ cfg.parts → p.cell = cfg.grid.cellOf p.r ∧
      (0 ≤ p.r.x ∧ p.r.x < cfg.grid.x.L) ∧ (0 ≤ p.r.y ∧ p.r.y < cfg.grid.y.L) ∧
      (0 ≤ p.r.z ∧ p.r.z < cfg.grid.z.L)) : Registered cfg 0 := by
  intro p hp
  obtain ⟨hc, hx, hy, hz⟩ := h p hp
  rw [hc]
  exact ⟨contains_cellIdx hg.1.1 hx.1 hx.2, contains_cellIdx hg.2.1.1 hy.1 hy.2,
    contains_cellIdx hg.2.2.1 hz.1 hz.2⟩

theorem sepV_minimal {g : Grid} (hg : g.OK) (r1 r2 : V3 Rat) (k : V3 Int)
    (hx : g.x.per = false → k.x = 0) (hy : g.y.per = false → k.y = 0)
    (hz : g.z.per = false → k.z = 0) :
    normSq (g.sepV r1 r2) ≤ normSq ⟨r1.x - r2.x - (k.x : Rat) * g.x.L,
      r1.y - r2.y - (k.y : Rat) * g.y.L, r1.z - r2.z - (k.z : Rat) * g.z.L⟩ := by
  exact Lean.Grind.OrderedAdd.add_le_add (Lean.Grind.OrderedAdd.add_le_add
    (sep_minimal hg.1 r1.x r2.x k.x hx) (sep_minimal hg.2.1 r1.y r2.y k.y hy))
    (sep_minimal hg.2.2 r1.z r2.z k.z hz)

/-- Refinement helper for a cell model that keeps one list per (cell, colour, frozen?) key: `cellParts`
returns exactly the model's list, so the freedom in the orders of the C++ lists is covered by the
freedom in the order of `cfg.parts`. -/
theorem cellParts_of_lists {cfg : Config} {ks : List (V3 Int × Nat × Bool)}
    {lists : V3 Int × Nat × Bool → List Particle} (hparts : cfg.parts = ks.flatMap lists)
    (hnd : ks.Nodup)
    (hattr : ∀ k, k ∈ ks → ∀ p, p ∈ lists k → (p.cell, p.colour, p.frozen) = k) :
    ∀ k, cfg.cellParts k.1 k.2.1 k.2.2 = if k ∈ ks then lists k else [] := by
  intro k
  unfold Config.cellParts
  rw [hparts]
  clear hparts
  induction ks with
  | nil => simp
  | cons k0 ks ih =>
    rw [List.nodup_cons] at hnd
    have ih' := ih hnd.2 (fun k hk => hattr k (List.mem_cons_of_mem _ hk))
    simp only [List.flatMap_cons, List.filter_append, ih']
    by_cases h0 : k = k0
    · subst h0
      simp only [List.mem_cons, true_or, if_true, if_neg hnd.1, List.append_nil]
      rw [List.filter_eq_self]
      intro p hp
      have := hattr k (List.mem_cons_self) p hp
      rw [← this]; simp
    · have hf : (lists k0).filter (fun p => p.cell = k.1 && p.colour = k.2.1 && p.frozen = k.2.2) = [] := by
        rw [List.filter_eq_nil_iff]
        intro p hp
        have := hattr k0 (List.mem_cons_self) p hp
        intro hc
        apply h0
        rw [← this]
        simp only [Bool.and_eq_true, decide_eq_true_eq] at hc
        obtain ⟨⟨c1, c2⟩, c3⟩ := hc
        rw [c1, c2, c3]
      rw [hf, List.nil_append]
      have : (k ∈ k0 :: ks) ↔ k ∈ ks := by simp [h0]
      simp only [this]

end Sympler.Geom
