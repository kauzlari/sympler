import Sympler.DataFormatLemmas
/-!
# Lemmas about the `DataFormat` model (C14): smart pointers, heap cells, blocks

Specifications of `allocVals`, `releaseVals`, `clearVals`, `deepCopyVals` under the ownership
invariant: lemmas about a single iteration, and an induction that only combines them with the
rest of the list.  Core Lean only.
-/
namespace Sympler.DataFormat

variable {h h' : Heap} {v : Val}

local notation "Addr" => Nat

/-! ## Slots -/

/-- some smart pointer slot of the value list points to cell `a` -/
def owns (vs : List Val) (a : Addr) : Prop := ∃ k : Nat, vs[k]? = some (Val.sp (some a))

def slotsInj (vs : List Val) : Prop :=
  ∀ (k1 k2 : Nat) (a : Addr), vs[k1]? = some (Val.sp (some a)) → vs[k2]? = some (Val.sp (some a)) → k1 = k2

def typed (attrs : List Attr) (vs : List Val) : Prop :=
  ∀ (k : Nat) (v : Val) (a : Attr), vs[k]? = some v → attrs[k]? = some a → v.hasType a.dtype = true

theorem owns_nil (a : Addr) : ¬ owns [] a := fun ⟨_, hk⟩ => nomatch hk

theorem owns_cons {vs : List Val} {a : Addr} :
    owns (v :: vs) a ↔ v = Val.sp (some a) ∨ owns vs a := by
  constructor
  · rintro ⟨k, hk⟩
    cases k with
    | zero => exact Or.inl (Option.some.inj hk)
    | succ k => exact Or.inr ⟨k, hk⟩
  · rintro (h | ⟨k, hk⟩)
    · exact ⟨0, congrArg some h⟩
    · exact ⟨k + 1, hk⟩

theorem owns_cons_skip {vs : List Val} (hv : ∀ a, v ≠ Val.sp (some a)) (a : Addr) :
    owns (v :: vs) a ↔ owns vs a :=
  owns_cons.trans ⟨fun h => h.elim (fun e => absurd e (hv a)) id, Or.inr⟩

theorem owns_concat {vs : List Val} {a : Addr} :
    owns (vs ++ [v]) a ↔ owns vs a ∨ v = Val.sp (some a) :=
  ⟨fun ⟨k, hk⟩ => (getElem?_concat_eq_some.1 hk).imp (fun h => ⟨k, h⟩) (fun h => h.2),
   fun h => h.elim (fun ⟨k, hk⟩ => ⟨k, getElem?_concat_eq_some.2 (Or.inl hk)⟩)
    (fun h => ⟨vs.length, getElem?_concat_eq_some.2 (Or.inr ⟨rfl, h⟩)⟩)⟩

theorem slotsInj_nil : slotsInj [] := fun _ _ _ h => nomatch h

theorem slotsInj_cons {vs : List Val} :
    slotsInj (v :: vs) ↔ slotsInj vs ∧ ∀ a, v = Val.sp (some a) → ¬ owns vs a := by
  constructor
  · intro h
    refine ⟨fun k1 k2 a h1 h2 => Nat.succ.inj (h (k1 + 1) (k2 + 1) a h1 h2), ?_⟩
    rintro a hv ⟨k, hk⟩
    exact Nat.noConfusion (h 0 (k + 1) a (congrArg some hv) hk)
  · rintro ⟨h1, h2⟩ k1 k2 a hk1 hk2
    cases k1 with
    | zero =>
      cases k2 with
      | zero => rfl
      | succ k2 => exact absurd ⟨k2, hk2⟩ (h2 a (Option.some.inj hk1))
    | succ k1 =>
      cases k2 with
      | zero => exact absurd ⟨k1, hk1⟩ (h2 a (Option.some.inj hk2))
      | succ k2 => exact congrArg (· + 1) (h1 k1 k2 a hk1 hk2)

theorem slotsInj_concat {vs : List Val} (h1 : slotsInj vs)
    (h2 : ∀ a, v = Val.sp (some a) → ¬ owns vs a) : slotsInj (vs ++ [v]) := by
  intro k1 k2 a hk1 hk2
  rcases getElem?_concat_eq_some.1 hk1 with hk1 | ⟨rfl, hv1⟩ <;>
    rcases getElem?_concat_eq_some.1 hk2 with hk2 | ⟨rfl, hv2⟩
  · exact h1 k1 k2 a hk1 hk2
  · exact absurd ⟨k1, hk1⟩ (h2 a hv2)
  · exact absurd ⟨k2, hk2⟩ (h2 a hv1)
  · rfl

theorem typed_cons {a : Attr} {as : List Attr} {vs : List Val} (h : typed (a :: as) (v :: vs)) :
    v.hasType a.dtype = true ∧ typed as vs :=
  ⟨h 0 v a rfl rfl, fun k v' a' h1 h2 => h (k + 1) v' a' h1 h2⟩

theorem typed_cons_of {a : Attr} {as : List Attr} {v : Val} {vs : List Val}
    (h1 : v.hasType a.dtype = true) (h2 : typed as vs) : typed (a :: as) (v :: vs) := by
  intro k v' a' hv ha
  cases k with
  | zero => cases hv; cases ha; exact h1
  | succ k => exact h2 k v' a' hv ha

theorem typed_concat {a : Attr} {as : List Attr} {vs : List Val} (h : typed as vs)
    (hlen : vs.length = as.length) (hv : v.hasType a.dtype = true) : typed (as ++ [a]) (vs ++ [v]) := by
  intro k v' a' hk ha
  rcases getElem?_concat_eq_some.1 hk with hk | ⟨rfl, rfl⟩ <;>
    rcases getElem?_concat_eq_some.1 ha with ha | ⟨hk', rfl⟩
  · exact h k v' a' hk ha
  · exact absurd (lt_of_getElem?_some hk) (hk' ▸ hlen ▸ Nat.lt_irrefl _)
  · exact absurd (lt_of_getElem?_some ha) (hlen ▸ Nat.lt_irrefl _)
  · exact hv

theorem typed_nil_right (attrs : List Attr) : typed attrs [] := fun _ _ _ h => nomatch h

theorem hasType_noncontainer {t : DType} (h : v.hasType t = true) (ht : t.isContainer = false) :
    ∀ x, v ≠ Val.sp x := by
  rintro x rfl
  exact Bool.false_ne_true (ht.symm.trans h)

theorem zeroVal_hasType (t : DType) : (zeroVal t).hasType t = true := by
  cases t <;> decide

theorem zeroVal_ne_sp (t : DType) (a : Addr) : zeroVal t ≠ Val.sp (some a) := by
  cases t <;> exact fun h => nomatch h

/-- the smart pointers of `vs` point one to one onto the cells `n, …, m - 1` -/
structure FreshSlots (vs : List Val) (n m : Nat) : Prop where
  range : ∀ (k : Nat) (a : Nat), vs[k]? = some (Val.sp (some a)) → n ≤ a ∧ a < m
  inj : slotsInj vs
  onto : ∀ a, n ≤ a → a < m → owns vs a

theorem FreshSlots.nil (n : Nat) : FreshSlots [] n n :=
  ⟨(fun _ _ h => nomatch h), slotsInj_nil, fun _ h1 h2 => absurd (Nat.lt_of_le_of_lt h1 h2) (Nat.lt_irrefl _)⟩

theorem FreshSlots.cons_sp {vs : List Val} {n n' m : Nat} (hn : n' = n + 1) (hm : n < m)
    (h : FreshSlots vs n' m) : FreshSlots (Val.sp (some n) :: vs) n m := by
  subst hn
  refine ⟨fun k a hk => ?_, slotsInj_cons.2 ⟨h.inj, ?_⟩, fun a h1 h2 => ?_⟩
  · cases k with
    | zero => cases hk; exact ⟨Nat.le_refl _, hm⟩
    | succ k => exact ⟨Nat.le_of_succ_le (h.range k a hk).1, (h.range k a hk).2⟩
  · rintro a ha ⟨k, hk⟩
    cases ha
    exact Nat.not_succ_le_self _ (h.range k _ hk).1
  · by_cases ha : a = n
    · exact owns_cons.2 (Or.inl (by rw [ha]))
    · exact owns_cons.2 (Or.inr (h.onto a (by omega) h2))

theorem FreshSlots.cons_skip {vs : List Val} {n m : Nat} (hv : ∀ a, v ≠ Val.sp (some a))
    (h : FreshSlots vs n m) : FreshSlots (v :: vs) n m := by
  refine ⟨fun k a hk => ?_, slotsInj_cons.2 ⟨h.inj, fun a ha => absurd ha (hv a)⟩,
    fun a h1 h2 => (owns_cons_skip hv a).2 (h.onto a h1 h2)⟩
  cases k with
  | zero => exact absurd (Option.some.inj hk) (hv a)
  | succ k => exact h.range k a hk

/-! ## Heap cells -/

theorem Heap.get_eq_none {h : Heap} {a : Addr} : h.get a = none ↔ ∀ c, h[a]? ≠ some (some c) := by
  constructor
  · intro hn c hc
    rw [Heap.get_eq_some.2 hc] at hn; cases hn
  · intro hn
    cases hg : h.get a with
    | none => rfl
    | some c => exact absurd (Heap.get_eq_some.1 hg) (hn c)

theorem Heap.incRef_of_live {a : Addr} {v : List Elem} {n : Int} (hc : h[a]? = some (some ⟨v, n⟩)) :
    h.incRef a = .ok (h.set a (some ⟨v, n + 1⟩)) := by
  unfold Heap.incRef; rw [Heap.get_eq_some.2 hc]

theorem Heap.release_one {a : Addr} {c : Cell} (hc : h[a]? = some (some c)) (hrc : c.rc = 1) :
    h.release a = .ok (h.set a none) := by
  unfold Heap.release
  rw [Heap.get_eq_some.2 hc]
  simp [hrc]

theorem Heap.release_shared {a : Addr} {v : List Elem} {n m : Int} (hc : h[a]? = some (some ⟨v, n⟩))
    (hm : n - 1 = m) (h0 : m ≠ 0) : h.release a = .ok (h.set a (some ⟨v, m⟩)) := by
  unfold Heap.release
  rw [Heap.get_eq_some.2 hc]
  subst hm
  exact if_neg h0

/-- every cell owned by the value list is live and has reference count 1 -/
def ownedLive (h : Heap) (vs : List Val) : Prop :=
  ∀ a, owns vs a → ∃ c : Cell, h[a]? = some (some c) ∧ c.rc = 1

theorem ownedLive_tail {vs : List Val} (hl : ownedLive h (v :: vs)) : ownedLive h vs :=
  fun a ha => hl a (owns_cons.2 (Or.inr ha))

theorem heap_append_keep (extra : List (Option Cell)) {a : Nat} {c : Cell}
    (hc : h[a]? = some (some c)) : (h ++ extra)[a]? = some (some c) := by
  rw [List.getElem?_append_left (lt_of_getElem?_some hc)]; exact hc

theorem ownedLive_append {vs : List Val} (hl : ownedLive h vs) (e : List (Option Cell)) :
    ownedLive (h ++ e) vs :=
  fun a ha => (hl a ha).imp fun _ hc => ⟨heap_append_keep e hc.1, hc.2⟩

/-- `SmartPointer::release()` on a slot that holds the only reference to its cell -/
theorem Heap.releaseSlot_spec
    (hl : ∀ a, v = Val.sp (some a) → ∃ c : Cell, h[a]? = some (some c) ∧ c.rc = 1) :
    ∃ h1 : Heap, h.releaseSlot v.spAddr = .ok h1 ∧ h1.length = h.length ∧
      (∀ a, v = Val.sp (some a) → h1[a]? = some none) ∧ (∀ a, v ≠ Val.sp (some a) → h1[a]? = h[a]?) := by
  cases hp : v.spAddr with
  | none =>
    exact ⟨h, rfl, rfl, (fun a ha => nomatch hp.symm.trans (Val.spAddr_eq_some.2 ha)), fun _ _ => rfl⟩
  | some a0 =>
    have hv := Val.spAddr_eq_some.1 hp
    obtain ⟨c, hc, hrc⟩ := hl a0 hv
    refine ⟨h.set a0 none, Heap.release_one hc hrc, List.length_set, fun a ha => ?_, fun a ha => ?_⟩
    · cases hv.symm.trans ha
      exact List.getElem?_set_self (lt_of_getElem?_some hc)
    · exact List.getElem?_set_ne (fun e => ha (by rw [← e]; exact hv))

/-! ## `allocVals` -/

theorem allocVals_cons_container {x : Attr} (xs : List Attr) (hc : x.dtype.isContainer = true) :
    allocVals h (x :: xs) = (Val.sp (some h.length) :: (allocVals (h ++ [some ⟨[], 1⟩]) xs).1,
      (allocVals (h ++ [some ⟨[], 1⟩]) xs).2) := by
  simp [allocVals, hc, Heap.allocCell]

theorem allocVals_cons_other {x : Attr} (xs : List Attr) (hc : x.dtype.isContainer = false) :
    allocVals h (x :: xs) = (zeroVal x.dtype :: (allocVals h xs).1, (allocVals h xs).2) := by
  simp [allocVals, hc]

/-- `alloc(true)` -/
theorem allocVals_spec (attrs : List Attr) : ∀ (h : Heap),
    (allocVals h attrs).1.length = attrs.length ∧ typed attrs (allocVals h attrs).1 ∧
    (∃ extra : List (Option Cell), (allocVals h attrs).2 = h ++ extra ∧ ∀ c ∈ extra, c = some ⟨[], 1⟩) ∧
    FreshSlots (allocVals h attrs).1 h.length (allocVals h attrs).2.length := by
  induction attrs with
  | nil => exact fun h => ⟨rfl, typed_nil_right _, ⟨[], (List.append_nil h).symm, (fun _ hc => nomatch hc)⟩, .nil _⟩
  | cons x xs ih =>
    intro h
    by_cases hc : x.dtype.isContainer = true
    · obtain ⟨i1, ity, ⟨extra, i2, i2'⟩, ifr⟩ := ih (h ++ [some ⟨[], 1⟩])
      rw [allocVals_cons_container xs hc]
      have hlt : h.length < (allocVals (h ++ [some ⟨[], 1⟩]) xs).2.length := by
        rw [i2, List.length_append, List.length_append]; exact Nat.lt_add_right _ (Nat.lt_succ_self _)
      refine ⟨congrArg (· + 1) i1, typed_cons_of hc ity,
        ⟨some ⟨[], 1⟩ :: extra, by rw [i2, List.append_assoc]; rfl, fun c hc' => ?_⟩,
        .cons_sp List.length_append hlt ifr⟩
      exact (List.mem_cons.1 hc').elim id (i2' c)
    · obtain ⟨i1, ity, i2, ifr⟩ := ih h
      rw [allocVals_cons_other xs (Bool.of_not_eq_true hc)]
      exact ⟨congrArg (· + 1) i1, typed_cons_of (zeroVal_hasType _) ity, i2,
        .cons_skip (zeroVal_ne_sp x.dtype) ifr⟩

/-! ## `releaseVals` -/

theorem releaseVals_cons_spec {x : Attr} (xs : List Attr) (vs : List Val)
    (hv : v.hasType x.dtype = true)
    (hl : ∀ a, v = Val.sp (some a) → ∃ c : Cell, h[a]? = some (some c) ∧ c.rc = 1) :
    ∃ h1 : Heap, releaseVals h (x :: xs) (v :: vs) = releaseVals h1 xs vs ∧ h1.length = h.length ∧
      (∀ a, v = Val.sp (some a) → h1[a]? = some none) ∧ (∀ a, v ≠ Val.sp (some a) → h1[a]? = h[a]?) := by
  by_cases hc : x.dtype.isContainer = true
  · obtain ⟨h1, e1, r⟩ := Heap.releaseSlot_spec hl
    exact ⟨h1, by simp only [releaseVals, hc, if_true, e1], r⟩
  · have hc' : x.dtype.isContainer = false := by simpa using hc
    exact ⟨h, by simp [releaseVals, hc'], rfl, fun a ha => absurd ha (hasType_noncontainer hv hc' _),
      fun _ _ => rfl⟩

/-- releasing a block whose smart pointers are the only references frees exactly the owned cells -/
theorem releaseVals_spec (attrs : List Attr) : ∀ (h : Heap) (vals : List Val),
    vals.length ≤ attrs.length → typed attrs vals → slotsInj vals → ownedLive h vals →
    releaseVals h attrs vals = .error .ubStale ∨
    ∃ h', releaseVals h attrs vals = .ok h' ∧ h'.length = h.length ∧
      (∀ a, owns vals a → h'[a]? = some none) ∧ (∀ a, ¬ owns vals a → h'[a]? = h[a]?) := by
  induction attrs with
  | nil =>
    intro h vals hlen _ _ _
    cases List.eq_nil_of_length_eq_zero (Nat.le_zero.1 hlen)
    exact Or.inr ⟨h, rfl, rfl, fun a ha => absurd ha (owns_nil a), fun _ _ => rfl⟩
  | cons x xs ih =>
    intro h vals hlen hty hinj hlive
    cases vals with
    | nil =>
      -- without values left, only non-container attributes may follow
      by_cases hc : x.dtype.isContainer = true
      · left; simp [releaseVals, hc]
      · have : releaseVals h (x :: xs) [] = releaseVals h xs [] := by simp [releaseVals, hc]
        rw [this]; exact ih h [] (Nat.zero_le _) (typed_nil_right _) slotsInj_nil hlive
    | cons v vs =>
      obtain ⟨hv, hty'⟩ := typed_cons hty
      obtain ⟨hinj', hfresh⟩ := slotsInj_cons.1 hinj
      obtain ⟨h1, e1, l1, f1, k1⟩ := releaseVals_cons_spec xs vs hv (fun a ha => hlive a (owns_cons.2 (Or.inl ha)))
      -- the cells of the remaining slots are not the one just freed
      have hlive1 : ownedLive h1 vs := fun a ha => by
        rw [k1 a (fun e => hfresh a e ha)]; exact ownedLive_tail hlive a ha
      rw [e1]
      refine (ih h1 vs (Nat.le_of_succ_le_succ hlen) hty' hinj' hlive1).imp id ?_
      rintro ⟨h', e2, l2, f2, k2⟩
      refine ⟨h', e2, l2.trans l1, fun a ha => ?_, fun a ha => ?_⟩
      · rcases owns_cons.1 ha with ha | ha
        · rw [k2 a (hfresh a ha)]; exact f1 a ha
        · exact f2 a ha
      · rw [k2 a (fun hh => ha (owns_cons.2 (Or.inr hh))), k1 a (fun e => ha (owns_cons.2 (Or.inl e)))]

/-! ## `clearVals` -/

theorem clearVals_cons_spec (all : Bool) {x : Attr} (xs : List Attr) (vs : List Val)
    (hv : v.hasType x.dtype = true)
    (hl : ∀ a, v = Val.sp (some a) → ∃ c : Cell, h[a]? = some (some c) ∧ c.rc = 1) :
    ∃ h1 : Heap,
      clearVals all h (x :: xs) (v :: vs) =
        (match clearVals all h1 xs vs with
         | .error e => .error e
         | .ok (vs', h2) => .ok ((if all || !x.persistent then zeroVal x.dtype else v) :: vs', h2)) ∧
      h1.length = h.length ∧
      (∀ a, v = Val.sp (some a) → (all || !x.persistent) = true → h1[a]? = some none) ∧
      (∀ a, ((all || !x.persistent) = true → v ≠ Val.sp (some a)) → h1[a]? = h[a]?) := by
  by_cases ht : (all || !x.persistent) = true
  · by_cases hc : x.dtype.isContainer = true
    · obtain ⟨h1, e1, l1, f1, k1⟩ := Heap.releaseSlot_spec hl
      exact ⟨h1, by simp only [clearVals, ht, if_true, hc, e1]; rfl, l1, fun a ha _ => f1 a ha, fun a ha => k1 a (ha ht)⟩
    · have hc' : x.dtype.isContainer = false := by simpa using hc
      exact ⟨h, by simp only [clearVals, ht, if_true, hc', Bool.false_eq_true, if_false]; rfl, rfl,
        fun a ha => absurd ha (hasType_noncontainer hv hc' _), fun _ _ => rfl⟩
  · exact ⟨h, by simp only [clearVals, ht, Bool.false_eq_true, if_false]; rfl, rfl, fun _ _ h' => absurd h' ht,
      fun _ _ => rfl⟩

/-- `clear`/`clearAll` on a block whose smart pointers are the only references -/
theorem clearVals_spec (all : Bool) (attrs : List Attr) : ∀ (h : Heap) (vals : List Val),
    vals.length ≤ attrs.length → typed attrs vals → slotsInj vals → ownedLive h vals →
    clearVals all h attrs vals = .error .ubStale ∨
    ∃ vs' h', clearVals all h attrs vals = .ok (vs', h') ∧ h'.length = h.length ∧
      vs'.length = vals.length ∧
      (∀ (k : Nat) (v : Val) (a : Attr), vals[k]? = some v → attrs[k]? = some a →
        vs'[k]? = some (if all || !a.persistent then zeroVal a.dtype else v)) ∧
      (∀ a, owns vs' a → owns vals a ∧ h'[a]? = h[a]?) ∧
      (∀ a, owns vals a → ¬ owns vs' a → h'[a]? = some none) ∧
      (∀ a, ¬ owns vals a → h'[a]? = h[a]?) ∧
      slotsInj vs' := by
  induction attrs with
  | nil =>
    intro h vals hlen _ _ _
    cases List.eq_nil_of_length_eq_zero (Nat.le_zero.1 hlen)
    exact Or.inr ⟨[], h, rfl, rfl, rfl, (fun _ _ _ hk => nomatch hk), fun a ha => absurd ha (owns_nil a),
      fun a ha => absurd ha (owns_nil a), fun _ _ => rfl, slotsInj_nil⟩
  | cons x xs ih =>
    intro h vals hlen hty hinj hlive
    cases vals with
    | nil =>
      -- without values left, only untouched attributes may follow
      by_cases ht : (all || !x.persistent) = true
      · left; simp only [clearVals, ht, if_true]
      · have : clearVals all h (x :: xs) [] = clearVals all h xs [] := by
          simp only [clearVals, ht]; rfl
        rw [this]
        rcases ih h [] (Nat.zero_le _) (typed_nil_right _) slotsInj_nil hlive with he | ⟨vs', h', e, l, n, -, r⟩
        · exact Or.inl he
        · exact Or.inr ⟨vs', h', e, l, n, (fun _ _ _ hk => nomatch hk), r⟩
    | cons v vs =>
      obtain ⟨hv, hty'⟩ := typed_cons hty
      obtain ⟨hinj', hfresh⟩ := slotsInj_cons.1 hinj
      obtain ⟨h1, e1, l1, f1, k1⟩ :=
        clearVals_cons_spec all xs vs hv (fun a ha => hlive a (owns_cons.2 (Or.inl ha)))
      have hlive1 : ownedLive h1 vs := fun a ha => by
        rw [k1 a (fun _ e => hfresh a e ha)]; exact ownedLive_tail hlive a ha
      -- the new head slot is a smart pointer only if the slot was left alone
      have hnew : ∀ a, (if all || !x.persistent then zeroVal x.dtype else v) = Val.sp (some a) →
          v = Val.sp (some a) ∧ ¬ (all || !x.persistent) = true := by
        intro a ha
        split at ha
        · exact absurd ha (zeroVal_ne_sp _ a)
        · exact ⟨ha, by assumption⟩
      rw [e1]
      rcases ih h1 vs (Nat.le_of_succ_le_succ hlen) hty' hinj' hlive1 with he | ⟨vs', h', e2, h2, h3, h4, h5, h6, h7, h8⟩
      · left; rw [he]
      · right
        rw [e2]
        refine ⟨_, h', rfl, h2.trans l1, congrArg (· + 1) h3, ?_, ?_, ?_, ?_, ?_⟩
        · intro k v0 a hk ha
          cases k with
          | zero => cases hk; cases ha; rfl
          | succ k => exact h4 k v0 a hk ha
        · intro a ha
          rcases owns_cons.1 ha with ha | ha
          · obtain ⟨hva, hnt⟩ := hnew a ha
            exact ⟨owns_cons.2 (Or.inl hva), by rw [h7 a (hfresh a hva), k1 a (fun t => absurd t hnt)]⟩
          · obtain ⟨ho, hk⟩ := h5 a ha
            exact ⟨owns_cons.2 (Or.inr ho), by rw [hk, k1 a (fun _ e => hfresh a e ho)]⟩
        · intro a ha hn
          rcases owns_cons.1 ha with ha | ha
          · have ht : (all || !x.persistent) = true :=
              Decidable.by_contra fun ht => hn (owns_cons.2 (Or.inl (by rw [if_neg ht]; exact ha)))
            rw [h7 a (hfresh a ha)]; exact f1 a ha ht
          · exact h6 a ha (fun hh => hn (owns_cons.2 (Or.inr hh)))
        · intro a ha
          rw [h7 a (fun hh => ha (owns_cons.2 (Or.inr hh))), k1 a (fun _ e => ha (owns_cons.2 (Or.inl e)))]
        · exact slotsInj_cons.2 ⟨h8, fun a ha hh => hfresh a (hnew a ha).1 (h5 a hh).1⟩

/-! ## deep copy -/

theorem resolve_frame {r : Option RVal}
    (hk : ∀ (adr : Nat) (c : Cell), v = Val.sp (some adr) → h[adr]? = some (some c) → h'[adr]? = some (some c))
    (hr : resolve h v = .ok r) : resolve h' v = .ok r := by
  cases v with
  | sp p =>
    cases p with
    | none => exact hr
    | some adr =>
      simp only [resolve] at hr ⊢
      cases hg : h.get adr with
      | none => rw [hg] at hr; cases hr
      | some c =>
        rw [hg] at hr
        rw [Heap.get_eq_some.2 (hk adr c rfl (Heap.get_eq_some.1 hg))]
        exact hr
  | str x => cases x <;> exact hr
  | _ => exact hr


/-- `DATAFORMATCOPY_DEEP` on a bitwise copied smart pointer whose cell has reference count 1 -/
theorem deepCopySlot_same {y : Nat} {c : Cell} (hc : h[y]? = some (some c)) (hrc : c.rc = 1) :
    deepCopySlot h (some y) (some y) = .ok (h ++ [some ⟨c.val, 1⟩], some h.length) := by
  have hlt : y < h.length := lt_of_getElem?_some hc
  obtain ⟨cv, crc⟩ := c
  simp only at hrc
  subst hrc
  -- `incRefCount` on the copy: the shared cell counts 2
  have e1 : h.incRef y = .ok (h.set y (some ⟨cv, 1 + 1⟩)) := Heap.incRef_of_live hc
  -- the temporary of `deepCopy()` is the new last cell; `assign` first releases the shared cell back to 1 …
  have e3 : Heap.release (h.set y (some ⟨cv, 1 + 1⟩) ++ [some ⟨cv, 1⟩]) y = .ok (h ++ [some ⟨cv, 1⟩]) := by
    have hlt' : y < (h.set y (some (⟨cv, 1 + 1⟩ : Cell))).length := by rw [List.length_set]; exact hlt
    rw [Heap.release_shared (m := 1) ((List.getElem?_append_left hlt').trans (List.getElem?_set_self hlt)) rfl
      (by decide), List.set_append_left _ _ hlt', List.set_set, set_eq_self_of_getElem? hc]
  -- … then takes a second reference to the new cell, which the temporary gives up when it goes
  have e4 : Heap.incRef (h ++ [some (⟨cv, 1⟩ : Cell)]) h.length =
      .ok ((h ++ [some (⟨cv, 1⟩ : Cell)]).set h.length (some ⟨cv, 1 + 1⟩)) :=
    Heap.incRef_of_live List.getElem?_concat_length
  have e5 : Heap.release ((h ++ [some (⟨cv, 1⟩ : Cell)]).set h.length (some ⟨cv, 1 + 1⟩)) h.length =
      .ok (h ++ [some ⟨cv, 1⟩]) := by
    rw [Heap.release_shared (m := 1) (List.getElem?_set_self (by rw [List.length_append]; exact Nat.lt_succ_self _))
      rfl (by decide), List.set_set, set_eq_self_of_getElem? List.getElem?_concat_length]
  simp only [deepCopySlot, e1, Heap.get_eq_some.2 (List.getElem?_set_self hlt), Heap.allocCell, List.length_set,
    Heap.releaseSlot, e3, e4, e5]

theorem deepCopyVals_cons_spec (x : Attr) (xs : List Attr) (vs : List Val)
    (hl : ∀ a, v = Val.sp (some a) → ∃ c : Cell, h[a]? = some (some c) ∧ c.rc = 1) :
    deepCopyVals h (x :: xs) (v :: vs) (v :: vs) = .error .ubNullSp ∨
    ∃ (h1 : Heap) (v' : Val),
      deepCopyVals h (x :: xs) (v :: vs) (v :: vs) =
        (match deepCopyVals h1 xs vs vs with
         | .error e => .error e
         | .ok (r, h2) => .ok (v' :: r, h2)) ∧
      ((x.dtype.isContainer = false ∧ h1 = h ∧ v' = v) ∨
       (x.dtype.isContainer = true ∧ ∃ (y : Addr) (c : Cell), v = Val.sp (some y) ∧ h[y]? = some (some c) ∧
          h1 = h ++ [some ⟨c.val, 1⟩] ∧ v' = Val.sp (some h.length))) := by
  by_cases hc : x.dtype.isContainer = true
  · cases hp : v.spAddr with
    | none => left; simp [deepCopyVals, hc, hp, deepCopySlot]
    | some y =>
      have hvy := Val.spAddr_eq_some.1 hp
      obtain ⟨c, hc0, hrc⟩ := hl y hvy
      exact Or.inr ⟨_, _, by simp only [deepCopyVals, hc, if_true, hp, deepCopySlot_same hc0 hrc]; rfl,
        Or.inr ⟨hc, y, c, hvy, hc0, rfl, rfl⟩⟩
  · have hc' : x.dtype.isContainer = false := by simpa using hc
    exact Or.inr ⟨h, v, by simp only [deepCopyVals, hc', Bool.false_eq_true, if_false]; rfl, Or.inl ⟨hc', rfl, rfl⟩⟩

/-- the deep copy loop on a bitwise copy of a block whose smart pointers are the only references -/
theorem deepCopyVals_spec (attrs : List Attr) : ∀ (h : Heap) (vals : List Val),
    vals.length = attrs.length → typed attrs vals → ownedLive h vals →
    deepCopyVals h attrs vals vals = .error .ubNullSp ∨
    ∃ (vs' : List Val) (h' : Heap) (extra : List (Option Cell)),
      deepCopyVals h attrs vals vals = .ok (vs', h') ∧ h' = h ++ extra ∧
      (∀ c ∈ extra, ∃ l, c = some ⟨l, 1⟩) ∧ vs'.length = vals.length ∧ typed attrs vs' ∧
      FreshSlots vs' h.length h'.length ∧
      (∀ (k : Nat) (v : Val), vals[k]? = some v →
        ∃ v', vs'[k]? = some v' ∧ ∀ r, resolve h v = .ok r → resolve h' v' = .ok r) := by
  induction attrs with
  | nil =>
    intro h vals hlen _ _
    cases List.eq_nil_of_length_eq_zero hlen
    exact Or.inr ⟨[], h, [], rfl, (List.append_nil h).symm, (fun _ hc => nomatch hc), rfl, typed_nil_right _,
      .nil _, (fun _ _ hk => nomatch hk)⟩
  | cons x xs ih =>
    intro h vals hlen hty hlive
    cases vals with
    | nil => cases hlen
    | cons v vs =>
      obtain ⟨hv, hty'⟩ := typed_cons hty
      have hlen' : vs.length = xs.length := Nat.succ.inj hlen
      rcases deepCopyVals_cons_spec x xs vs (fun a ha => hlive a (owns_cons.2 (Or.inl ha))) with
        he | ⟨h1, v', e1, ⟨hc, rfl, rfl⟩ | ⟨hc, y, c, rfl, hc0, rfl, rfl⟩⟩
      · exact Or.inl he
      · -- not a container: the value is kept
        have hskip : ∀ a, v' ≠ Val.sp (some a) := fun a => hasType_noncontainer hv hc _
        rw [e1]
        rcases ih h1 vs hlen' hty' (ownedLive_tail hlive) with he | ⟨vs', h', extra, e2, h2, h3, h4, ity, ifr, h8⟩
        · left; rw [he]
        · right
          rw [e2]
          refine ⟨_, h', extra, rfl, h2, h3, congrArg (· + 1) h4, typed_cons_of hv ity, .cons_skip hskip ifr, ?_⟩
          intro k v0 hk
          cases k with
          | zero =>
            cases hk
            exact ⟨_, rfl, fun r => resolve_frame fun adr c _ hc' => h2 ▸ heap_append_keep extra hc'⟩
          | succ k => exact h8 k v0 hk
      · -- a container: a new cell with the content of the old one
        rw [e1]
        rcases ih _ vs hlen' hty' (ownedLive_append (ownedLive_tail hlive) _) with
          he | ⟨vs', h', extra, e2, h2, h3, h4, ity, ifr, h8⟩
        · left; rw [he]
        · right
          rw [e2]
          have hlt : h.length < h'.length := by
            rw [h2, List.length_append, List.length_append]; exact Nat.lt_add_right _ (Nat.lt_succ_self _)
          refine ⟨_, h', some ⟨c.val, 1⟩ :: extra, rfl, by rw [h2, List.append_assoc]; rfl,
            fun c' hc' => (List.mem_cons.1 hc').elim (fun e => ⟨c.val, e⟩) (h3 c'),
            congrArg (· + 1) h4, typed_cons_of hc ity, .cons_sp List.length_append hlt ifr, ?_⟩
          intro k v0 hk
          cases k with
          | zero =>
            cases hk
            have hnew : h'[h.length]? = some (some ⟨c.val, 1⟩) := by
              rw [h2, List.append_assoc, List.getElem?_append_right (Nat.le_refl _), Nat.sub_self]; rfl
            refine ⟨_, rfl, fun r hr => ?_⟩
            simp only [resolve, Heap.get_eq_some.2 hc0] at hr
            simp only [resolve, Heap.get_eq_some.2 hnew]
            exact hr
          | succ k =>
            -- the old cell is read in the heap before the new one was appended
            obtain ⟨w, hw, hres⟩ := h8 k v0 hk
            exact ⟨w, hw, fun r hr => hres r (resolve_frame (fun _ _ _ hc' => heap_append_keep _ hc') hr)⟩

end Sympler.DataFormat
