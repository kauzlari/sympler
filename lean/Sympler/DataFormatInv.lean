import Sympler.DataFormatHeap
/-!
# The invariant of the `DataFormat` model state (C14)

`Inv al s`: every format satisfies the layout invariant, every record refers to an existing
format and its block is a typed prefix of it, and the heap is owned exclusively: every smart
pointer of every live record points to a live cell with reference count 1, no cell has two
referents, and every live cell is referenced or was leaked by `operator=` (ghost list).
Then what happens to it when one record releases, allocates, deep copies, clears or grows its
block.  Core Lean only.
-/
namespace Sympler.DataFormat

variable {al : Option Nat} {s : State} {d i : Nat}
  {dat : Data} {fid : Nat} {f : Format} {b : Block} {h h' : Heap}

local notation "Addr" => Nat

/-- the values stored in the block of record `d` (`[]` when there is none) -/
def valsOf (datas : List (Option Data)) (d : Nat) : List Val :=
  match datas[d]? with
  | some (some ⟨_, some b⟩) => b.vals
  | _ => []

theorem valsOf_eq {datas : List (Option Data)} (h : datas[d]? = some (some dat)) :
    valsOf datas d = match dat.block with | some b => b.vals | none => [] := by
  unfold valsOf; rw [h]
  obtain ⟨f, b⟩ := dat
  cases b <;> rfl

theorem valsOf_of_block {datas : List (Option Data)}
    (h : datas[d]? = some (some dat)) (hb : dat.block = some b) : valsOf datas d = b.vals := by
  rw [valsOf_eq h, hb]

theorem valsOf_length_nil (s : State) : valsOf s.datas s.datas.length = [] := by
  unfold valsOf; rw [List.getElem?_eq_none (Nat.le_refl _)]

theorem valsOf_set_ne {datas : List (Option Data)} {d x : Nat} {v : Option Data} (h : x ≠ d) :
    valsOf (datas.set d v) x = valsOf datas x := by
  unfold valsOf; rw [List.getElem?_set_ne (Ne.symm h)]

theorem valsOf_append_ne {datas : List (Option Data)} {x : Nat} {v : Option Data} (h : x ≠ datas.length) :
    valsOf (datas ++ [v]) x = valsOf datas x := by
  unfold valsOf; rw [getElem?_concat_of_ne v h]

theorem valsOf_set_self {datas : List (Option Data)} {d : Nat} {fm : Option Nat} {b : Block}
    (hd : d < datas.length) : valsOf (datas.set d (some ⟨fm, some b⟩)) d = b.vals := by
  unfold valsOf; rw [List.getElem?_set_self hd]

theorem valsOf_append_self {datas : List (Option Data)} {fm : Option Nat} {b : Block} :
    valsOf (datas ++ [some ⟨fm, some b⟩]) datas.length = b.vals := by
  unfold valsOf; rw [List.getElem?_concat_length]

/-- exclusive ownership of the heap -/
structure HeapOk (s : State) : Prop where
  live : ∀ (d : Nat) (a : Addr), owns (valsOf s.datas d) a → ∃ c : Cell, s.heap[a]? = some (some c)
  rc : ∀ (a : Addr) (c : Cell), s.heap[a]? = some (some c) → c.rc = 1
  inj : ∀ d : Nat, slotsInj (valsOf s.datas d)
  sep : ∀ (d1 d2 : Nat) (a : Addr), owns (valsOf s.datas d1) a → owns (valsOf s.datas d2) a → d1 = d2
  /-- with `leakLive`, `complete`: a live cell is referenced by a record or in `leaked`, never both -/
  leakSep : ∀ a ∈ s.leaked, ∀ d : Nat, ¬ owns (valsOf s.datas d) a
  leakLive : ∀ a ∈ s.leaked, ∃ c : Cell, s.heap[a]? = some (some c)
  complete : ∀ (a : Addr) (c : Cell), s.heap[a]? = some (some c) →
    (∃ d : Nat, owns (valsOf s.datas d) a) ∨ a ∈ s.leaked

theorem HeapOk.ownedLive (hs : HeapOk s) (d : Nat) : ownedLive s.heap (valsOf s.datas d) := by
  intro a ha
  obtain ⟨c, hc⟩ := hs.live d a ha
  exact ⟨c, hc, hs.rc a c hc⟩

/-- the general step of the ownership invariant: only record `d` and the cells it owns (and
    new cells) change; `hnores`: no freed cell comes back to life; `L`: the cells `d` gives up
    without freeing them -/
theorem HeapOk.update {s : State} (hs : HeapOk s) (d : Nat) (fmts' : List Format)
    (datas' : List (Option Data)) (h' : Heap) (L : List Addr)
    (hother : ∀ x, x ≠ d → valsOf datas' x = valsOf s.datas x)
    (hinj : slotsInj (valsOf datas' d))
    (hframe : ∀ (a : Addr) (c : Cell), s.heap[a]? = some (some c) → ¬ owns (valsOf s.datas d) a →
      h'[a]? = some (some c))
    (hsrc : ∀ a : Nat, owns (valsOf datas' d) a → owns (valsOf s.datas d) a ∨ s.heap.length ≤ a)
    (hlive : ∀ a, owns (valsOf datas' d) a → ∃ c : Cell, h'[a]? = some (some c))
    (hrc : ∀ (a : Addr) (c : Cell), h'[a]? = some (some c) → c.rc = 1)
    (hnores : ∀ (a : Nat) (c : Cell), a < s.heap.length → h'[a]? = some (some c) →
      ∃ c0 : Cell, s.heap[a]? = some (some c0))
    (hcomplete : ∀ (a : Nat) (c : Cell), h'[a]? = some (some c) →
      (owns (valsOf s.datas d) a ∨ s.heap.length ≤ a) → owns (valsOf datas' d) a ∨ a ∈ L)
    (hL : ∀ a ∈ L, owns (valsOf s.datas d) a ∧ ¬ owns (valsOf datas' d) a ∧
      ∃ c : Cell, h'[a]? = some (some c)) :
    HeapOk ⟨fmts', datas', h', s.leaked ++ L⟩ := by
  have oldLt : ∀ (x a : Nat), owns (valsOf s.datas x) a → a < s.heap.length := fun x a ha =>
    (hs.live x a ha).elim fun _ hc => lt_of_getElem?_some hc
  -- a cell owned by another record is not owned by `d`, before or after
  have other : ∀ (x a : Nat), x ≠ d → owns (valsOf datas' x) a →
      owns (valsOf s.datas x) a ∧ ¬ owns (valsOf s.datas d) a ∧ ¬ owns (valsOf datas' d) a := by
    intro x a hx ha
    rw [hother x hx] at ha
    refine ⟨ha, fun ho => hx (hs.sep x d a ha ho), fun hn => ?_⟩
    rcases hsrc a hn with ho | hge
    · exact hx (hs.sep x d a ha ho)
    · exact Nat.lt_irrefl _ (Nat.lt_of_lt_of_le (oldLt x a ha) hge)
  refine ⟨?_, hrc, ?_, ?_, ?_, ?_, ?_⟩
  · -- live
    intro x a ha
    by_cases hx : x = d
    · subst hx; exact hlive a ha
    · obtain ⟨ho, hnd, _⟩ := other x a hx ha
      obtain ⟨c, hc⟩ := hs.live x a ho
      exact ⟨c, hframe a c hc hnd⟩
  · -- inj
    intro x
    by_cases hx : x = d
    · subst hx; exact hinj
    · show slotsInj (valsOf datas' x)
      rw [hother x hx]; exact hs.inj x
  · -- sep
    intro x1 x2 a h1 h2
    show x1 = x2
    by_cases hx1 : x1 = d <;> by_cases hx2 : x2 = d
    · rw [hx1, hx2]
    · exact absurd (hx1 ▸ h1) (other x2 a hx2 h2).2.2
    · exact absurd (hx2 ▸ h2) (other x1 a hx1 h1).2.2
    · exact hs.sep x1 x2 a (other x1 a hx1 h1).1 (other x2 a hx2 h2).1
  · -- leakSep
    intro a ha x hx
    have hx' : owns (valsOf datas' x) a := hx
    rcases List.mem_append.1 ha with ha' | ha'
    · by_cases hxd : x = d
      · subst hxd
        rcases hsrc a hx' with ho | hn
        · exact hs.leakSep a ha' x ho
        · obtain ⟨c, hc⟩ := hs.leakLive a ha'
          exact Nat.lt_irrefl _ (Nat.lt_of_lt_of_le (lt_of_getElem?_some hc) hn)
      · exact hs.leakSep a ha' x (other x a hxd hx').1
    · by_cases hxd : x = d
      · subst hxd; exact (hL a ha').2.1 hx'
      · exact (other x a hxd hx').2.1 (hL a ha').1
  · -- leakLive
    intro a ha
    rcases List.mem_append.1 ha with ha' | ha'
    · obtain ⟨c, hc⟩ := hs.leakLive a ha'
      exact ⟨c, hframe a c hc (hs.leakSep a ha' d)⟩
    · exact (hL a ha').2.2
  · -- complete
    intro a c hc
    show (∃ x, owns (valsOf datas' x) a) ∨ a ∈ s.leaked ++ L
    have hc' : h'[a]? = some (some c) := hc
    have fromD : owns (valsOf s.datas d) a ∨ s.heap.length ≤ a →
        (∃ x, owns (valsOf datas' x) a) ∨ a ∈ s.leaked ++ L := fun hor =>
      (hcomplete a c hc' hor).imp (fun hn => ⟨d, hn⟩) (fun hl => List.mem_append.2 (Or.inr hl))
    by_cases hlt : a < s.heap.length
    · obtain ⟨c0, hc0⟩ := hnores a c hlt hc'
      rcases hs.complete a c0 hc0 with ⟨x, hx⟩ | hl
      · by_cases hxd : x = d
        · subst hxd; exact fromD (Or.inl hx)
        · exact Or.inl ⟨x, by rw [hother x hxd]; exact hx⟩
      · exact Or.inr (List.mem_append.2 (Or.inl hl))
    · exact fromD (Or.inr (Nat.le_of_not_lt hlt))

/-! ## Blocks and records -/

/-- a block of a record of format `f`; `size`: the offset at which the next attribute would start -/
structure BlockOk (al : Option Nat) (f : Format) (b : Block) : Prop where
  len : b.vals.length ≤ f.byIndex.length
  size : b.size = prefixSize al (f.byIndex.take b.vals.length)
  typed : typed f.byIndex b.vals

def DataOk (al : Option Nat) (fmts : List Format) (dat : Data) : Prop :=
  match dat.fmt with
  | none => dat.block = none
  | some fid => ∃ f : Format, fmts[fid]? = some f ∧ ∀ b, dat.block = some b → BlockOk al f b

structure Inv (al : Option Nat) (s : State) : Prop where
  fmts : ∀ (fid : Nat) (f : Format), s.fmts[fid]? = some f → FormatOk al f
  datas : ∀ (d : Nat) (dat : Data), s.datas[d]? = some (some dat) → DataOk al s.fmts dat
  heap : HeapOk s

theorem Inv.init (al : Option Nat) : Inv al State.init := by
  have hv : ∀ d a, ¬ owns (valsOf State.init.datas d) a := fun _ a => owns_nil a
  exact ⟨fun _ _ h => (nomatch h), fun _ _ h => (nomatch h),
    ⟨fun d a ha => absurd ha (hv d a), fun _ _ h => (nomatch h), fun _ => slotsInj_nil,
     fun d _ a ha => absurd ha (hv d a), fun _ h => (nomatch h), fun _ h => (nomatch h), fun _ _ h => (nomatch h)⟩⟩

/-- a block that is not stale (not smaller than the format) has a value for every attribute -/
theorem BlockOk.full_of_not_lt (hf : FormatOk al f)
    (hb : BlockOk al f b) (h : ¬ b.size < f.size) : b.vals.length = f.byIndex.length := by
  refine Nat.le_antisymm hb.len (Nat.le_of_not_lt fun hlt => h ?_)
  -- the block ends where attribute `vals.length` starts, and that attribute has positive size
  have ha := List.getElem?_eq_getElem hlt
  have h1 := prefixSize_take_succ al f.byIndex b.vals.length _ ha
  have h2 := prefixSize_take_le al f.byIndex (b.vals.length + 1)
  have h3 := csize_pos al (f.byIndex[b.vals.length]).dtype
  rw [hb.size, hf.size]
  omega

theorem BlockOk.size_le (hf : FormatOk al f)
    (hb : BlockOk al f b) : b.size ≤ f.size := by
  rw [hb.size, hf.size]; exact prefixSize_take_le al _ _

/-- `f'` has the attributes of `f`, identical up to `persistent`, and possibly more -/
def Format.layoutKept (f f' : Format) : Prop :=
  ∀ (k : Nat) (a : Attr), f.byIndex[k]? = some a → ∃ a' : Attr, f'.byIndex[k]? = some a' ∧ a.samePers a'

theorem Format.layoutKept_refl (f : Format) : f.layoutKept f := fun _ a h => ⟨a, h, .refl a⟩

theorem Format.layoutKept_length {f' : Format} (h : f.layoutKept f') : f.byIndex.length ≤ f'.byIndex.length := by
  refine Nat.le_of_not_lt fun hlt => ?_
  obtain ⟨a', ha', _⟩ := h _ _ (List.getElem?_eq_getElem hlt)
  exact Nat.lt_irrefl _ (lt_of_getElem?_some ha')

theorem prefixSize_take_ext {f' : Format} (h : f.layoutKept f') :
    ∀ n, n ≤ f.byIndex.length → prefixSize al (f'.byIndex.take n) = prefixSize al (f.byIndex.take n) := by
  intro n
  induction n with
  | zero => intro _; rfl
  | succ n ih =>
    intro hn
    have ha := List.getElem?_eq_getElem (Nat.lt_of_succ_le hn)
    obtain ⟨a', ha', hd⟩ := h n _ ha
    rw [prefixSize_take_succ al _ n _ ha', prefixSize_take_succ al _ n _ ha, ih (Nat.le_of_succ_le hn), hd.2.2.2.1]

theorem BlockOk.mono {f' : Format} (h : f.layoutKept f')
    (hb : BlockOk al f b) : BlockOk al f' b := by
  refine ⟨Nat.le_trans hb.len (Format.layoutKept_length h), ?_, ?_⟩
  · rw [hb.size, prefixSize_take_ext h _ hb.len]
  · intro k v a' hv ha'
    have ha := List.getElem?_eq_getElem (Nat.lt_of_lt_of_le (lt_of_getElem?_some hv) hb.len)
    obtain ⟨a'', ha'', hd⟩ := h k _ ha
    rw [ha'] at ha''; cases ha''
    rw [← hd.2.2.2.1]; exact hb.typed k v _ hv ha

theorem Format.layoutKept_addAttribute {f' : Format} {n sym : String} {t : DType}
    {p : Bool} {a : Attr} (h : f.addAttribute al n t p sym = .ok (a, f')) : f.layoutKept f' := by
  rcases Format.addAttribute_ok_cases h with ⟨_, _, rfl⟩ | ⟨_, _, rfl⟩
  · exact fun k x hx => ⟨x, getElem?_concat_eq_some.2 (Or.inl hx), .refl x⟩
  · exact Format.layoutKept_refl _

theorem Format.layoutKept_setPersistent (f : Format) (i : Nat) (p : Bool) :
    f.layoutKept (f.setPersistent i p) := by
  cases ha : f.byIndex[i]? with
  | none => rw [Format.setPersistent_of_none ha]; exact Format.layoutKept_refl f
  | some a =>
    rw [Format.setPersistent_of_some ha]
    intro k x hx
    by_cases hik : i = k
    · subst hik
      rw [ha] at hx; cases hx
      exact ⟨_, List.getElem?_set_self (lt_of_getElem?_some ha), rfl, rfl, rfl, rfl, rfl⟩
    · exact ⟨x, (List.getElem?_set_ne hik).trans hx, .refl x⟩

theorem DataOk.mono_fmts {fmts : List Format} {f' : Format}
    (hext : ∀ f, fmts[fid]? = some f → f.layoutKept f') (h : DataOk al fmts dat) :
    DataOk al (fmts.set fid f') dat := by
  unfold DataOk at h ⊢
  cases hfd : dat.fmt with
  | none => rw [hfd] at h; exact h
  | some fd =>
    rw [hfd] at h
    obtain ⟨f, hf, hb⟩ := h
    by_cases hfe : fid = fd
    · subst hfe
      exact ⟨f', List.getElem?_set_self (lt_of_getElem?_some hf), fun b hbb => (hb b hbb).mono (hext f hf)⟩
    · exact ⟨f, (List.getElem?_set_ne hfe).trans hf, hb⟩

theorem DataOk.mono_append {fmts : List Format} {f' : Format}
    (h : DataOk al fmts dat) : DataOk al (fmts ++ [f']) dat := by
  unfold DataOk at h ⊢
  cases hfd : dat.fmt with
  | none => rw [hfd] at h; exact h
  | some fd =>
    rw [hfd] at h
    obtain ⟨f, hf, hb⟩ := h
    exact ⟨f, getElem?_concat_eq_some.2 (Or.inl hf), hb⟩

/-! ## Ownership: building blocks -/

theorem HeapOk.congr (hs : HeapOk s) (fmts' : List Format) (datas' : List (Option Data))
    (h : ∀ (x k : Nat) (a : Addr), (valsOf datas' x)[k]? = some (Val.sp (some a)) ↔
      (valsOf s.datas x)[k]? = some (Val.sp (some a))) :
    HeapOk ⟨fmts', datas', s.heap, s.leaked⟩ := by
  have ho : ∀ x a, owns (valsOf datas' x) a ↔ owns (valsOf s.datas x) a := fun x a =>
    ⟨fun ⟨k, hk⟩ => ⟨k, (h x k a).1 hk⟩, fun ⟨k, hk⟩ => ⟨k, (h x k a).2 hk⟩⟩
  refine ⟨fun d a ha => hs.live d a ((ho d a).1 ha), hs.rc,
    fun d k1 k2 a h1 h2 => hs.inj d k1 k2 a ((h d k1 a).1 h1) ((h d k2 a).1 h2),
    fun d1 d2 a h1 h2 => hs.sep d1 d2 a ((ho d1 a).1 h1) ((ho d2 a).1 h2),
    fun a ha d hd => hs.leakSep a ha d ((ho d a).1 hd), hs.leakLive, fun a c hc => ?_⟩
  exact (hs.complete a c hc).imp (fun ⟨d, hd⟩ => ⟨d, (ho d a).2 hd⟩) id

theorem HeapOk.setCell (hs : HeapOk s) {a : Addr} {c c' : Cell}
    (hc : s.heap[a]? = some (some c)) (hrc : c'.rc = c.rc) :
    HeapOk { s with heap := s.heap.set a (some c') } := by
  have hlt := lt_of_getElem?_some hc
  -- the live cells are the same, with the same counters
  have old : ∀ (x : Addr) (y : Cell), (s.heap.set a (some c'))[x]? = some (some y) →
      ∃ y0 : Cell, s.heap[x]? = some (some y0) ∧ y.rc = y0.rc := by
    intro x y hy
    by_cases hax : a = x
    · subst hax
      rw [List.getElem?_set_self hlt] at hy; cases hy
      exact ⟨c, hc, hrc⟩
    · exact ⟨y, (List.getElem?_set_ne hax).symm.trans hy, rfl⟩
  have new : ∀ (x : Addr) (y : Cell), s.heap[x]? = some (some y) →
      ∃ y' : Cell, (s.heap.set a (some c'))[x]? = some (some y') := by
    intro x y hy
    by_cases hax : a = x
    · exact ⟨c', hax ▸ List.getElem?_set_self hlt⟩
    · exact ⟨y, (List.getElem?_set_ne hax).trans hy⟩
  refine ⟨fun d x hx => ?_, fun x y hy => ?_, hs.inj, hs.sep, hs.leakSep, fun x hx => ?_, fun x y hy => ?_⟩
  · obtain ⟨y, hy⟩ := hs.live d x hx
    exact new x y hy
  · obtain ⟨y0, hy0, e⟩ := old x y hy
    exact e.trans (hs.rc x y0 hy0)
  · obtain ⟨y, hy⟩ := hs.leakLive x hx
    exact new x y hy
  · obtain ⟨y0, hy0, _⟩ := old x y hy
    exact hs.complete x y0 hy0

/-- record `d` keeps some of its smart pointers and the cells of the others are freed -/
theorem HeapOk.cleared {s : State} (hs : HeapOk s) (d : Nat) (fmts' : List Format)
    (datas' : List (Option Data)) (h' : Heap)
    (hother : ∀ x, x ≠ d → valsOf datas' x = valsOf s.datas x)
    (hlen : h'.length = s.heap.length)
    (hsub : ∀ a, owns (valsOf datas' d) a → owns (valsOf s.datas d) a ∧ h'[a]? = s.heap[a]?)
    (hfreed : ∀ a, owns (valsOf s.datas d) a → ¬ owns (valsOf datas' d) a → h'[a]? = some none)
    (hkept : ∀ a, ¬ owns (valsOf s.datas d) a → h'[a]? = s.heap[a]?)
    (hinj : slotsInj (valsOf datas' d)) :
    HeapOk ⟨fmts', datas', h', s.leaked⟩ := by
  -- a cell that is live afterwards was live before, and `d` still owns it if it did
  have hcl : ∀ (a : Addr) (c : Cell), h'[a]? = some (some c) →
      s.heap[a]? = some (some c) ∧ (owns (valsOf s.datas d) a → owns (valsOf datas' d) a) := by
    intro a c hc
    by_cases ho : owns (valsOf s.datas d) a
    · by_cases hn : owns (valsOf datas' d) a
      · exact ⟨(hsub a hn).2.symm.trans hc, fun _ => hn⟩
      · rw [hfreed a ho hn] at hc; cases hc
    · exact ⟨(hkept a ho).symm.trans hc, fun h => absurd h ho⟩
  have := hs.update d fmts' datas' h' [] hother hinj
    (fun a c hc ho => (hkept a ho).trans hc)
    (fun a ha => Or.inl (hsub a ha).1)
    (fun a ha => (hs.live d a (hsub a ha).1).imp fun c hc => (hsub a ha).2.trans hc)
    (fun a c hc => hs.rc a c (hcl a c hc).1)
    (fun a c _ hc => ⟨c, (hcl a c hc).1⟩)
    (fun a c hc hor => hor.elim (fun ho => Or.inl ((hcl a c hc).2 ho))
      (fun hge => absurd (hlen ▸ lt_of_getElem?_some hc) (Nat.not_lt.2 hge)))
    (fun _ ha => nomatch ha)
  rw [List.append_nil] at this
  exact this

/-- new cells with reference count 1 are appended: record `d` keeps some of its smart pointers,
    gets one to each new cell, and those it gives up without releasing them go to `leaked` -/
theorem HeapOk.extended (hs : HeapOk s) (d : Nat) (fmts' : List Format)
    (datas' : List (Option Data)) (extra : List (Option Cell)) (L : List Addr)
    (hother : ∀ x, x ≠ d → valsOf datas' x = valsOf s.datas x)
    (hextra : ∀ c ∈ extra, ∃ l : List Elem, c = some ⟨l, 1⟩)
    (hinj : slotsInj (valsOf datas' d))
    (hsrc : ∀ a : Nat, owns (valsOf datas' d) a →
      owns (valsOf s.datas d) a ∨ (s.heap.length ≤ a ∧ a < (s.heap ++ extra).length))
    (honto : ∀ a : Nat, s.heap.length ≤ a → a < (s.heap ++ extra).length → owns (valsOf datas' d) a)
    (hL : ∀ a, a ∈ L ↔ owns (valsOf s.datas d) a ∧ ¬ owns (valsOf datas' d) a) :
    HeapOk ⟨fmts', datas', s.heap ++ extra, s.leaked ++ L⟩ := by
  have keep : ∀ (a : Nat) (c : Cell), s.heap[a]? = some (some c) → (s.heap ++ extra)[a]? = some (some c) :=
    fun a c hc => (List.getElem?_append_left (lt_of_getElem?_some hc)).trans hc
  have old : ∀ (a : Nat) (c : Cell), a < s.heap.length → (s.heap ++ extra)[a]? = some (some c) →
      s.heap[a]? = some (some c) := fun a c hlt hc => (List.getElem?_append_left hlt).symm.trans hc
  have newCell : ∀ (a : Nat) (c : Option Cell), s.heap.length ≤ a → (s.heap ++ extra)[a]? = some c →
      ∃ l : List Elem, c = some ⟨l, 1⟩ := fun a c hge hc =>
    hextra c (List.mem_of_getElem? ((List.getElem?_append_right hge).symm.trans hc))
  apply hs.update d fmts' datas' (s.heap ++ extra) L hother hinj
  · exact fun a c hc _ => keep a c hc
  · exact fun a ha => (hsrc a ha).imp id And.left
  · intro a ha
    rcases hsrc a ha with ho | ⟨h1, h2⟩
    · exact (hs.live d a ho).imp fun c hc => keep a c hc
    · obtain ⟨l, hl⟩ := newCell a _ h1 (List.getElem?_eq_getElem h2)
      exact ⟨⟨l, 1⟩, (List.getElem?_eq_getElem h2).trans (congrArg some hl)⟩
  · intro a c hc
    by_cases hlt : a < s.heap.length
    · exact hs.rc a c (old a c hlt hc)
    · obtain ⟨l, hl⟩ := newCell a _ (Nat.le_of_not_lt hlt) hc
      cases hl; rfl
  · exact fun a c hlt hc => ⟨c, old a c hlt hc⟩
  · intro a c hc hor
    rcases hor with ho | hge
    · exact (Classical.em (owns (valsOf datas' d) a)).imp id fun hn => (hL a).2 ⟨ho, hn⟩
    · exact Or.inl (honto a hge (lt_of_getElem?_some hc))
  · intro a ha
    obtain ⟨ho, hn⟩ := (hL a).1 ha
    exact ⟨ho, hn, (hs.live d a ho).imp fun c hc => keep a c hc⟩

/-- record `d` gets a block all of whose smart pointers point to new cells (allocation, deep
    copy); the cells it owned before are leaked -/
theorem HeapOk.fresh (hs : HeapOk s) (d : Nat) (fmts' : List Format)
    (datas' : List (Option Data)) (extra : List (Option Cell)) (L : List Addr)
    (hother : ∀ x, x ≠ d → valsOf datas' x = valsOf s.datas x)
    (hL : ∀ a, a ∈ L ↔ owns (valsOf s.datas d) a)
    (hextra : ∀ c ∈ extra, ∃ l : List Elem, c = some ⟨l, 1⟩)
    (hf : FreshSlots (valsOf datas' d) s.heap.length (s.heap ++ extra).length) :
    HeapOk ⟨fmts', datas', s.heap ++ extra, s.leaked ++ L⟩ := by
  refine hs.extended d fmts' datas' extra L hother hextra hf.inj (fun a ⟨k, hk⟩ => Or.inr (hf.range k a hk))
    hf.onto fun a => (hL a).trans ⟨fun ho => ⟨ho, fun ⟨k, hk⟩ => ?_⟩, And.left⟩
  -- an old cell lies below the new ones
  obtain ⟨c, hc⟩ := hs.live d a ho
  exact Nat.lt_irrefl _ (Nat.lt_of_lt_of_le (lt_of_getElem?_some hc) (hf.range k a hk).1)

/-- `Data::addAttribute` for a new container attribute: one more slot pointing to a new cell -/
theorem HeapOk.appendedSp (hs : HeapOk s) (d : Nat) (fmts' : List Format)
    (datas' : List (Option Data))
    (hother : ∀ x, x ≠ d → valsOf datas' x = valsOf s.datas x)
    (hd : valsOf datas' d = valsOf s.datas d ++ [Val.sp (some s.heap.length)]) :
    HeapOk ⟨fmts', datas', s.heap ++ [some ⟨[], 1⟩], s.leaked⟩ := by
  have oldLt : ∀ (a : Nat), owns (valsOf s.datas d) a → a < s.heap.length := fun a ha =>
    (hs.live d a ha).elim fun _ hc => lt_of_getElem?_some hc
  have hown : ∀ a : Nat, owns (valsOf datas' d) a ↔ owns (valsOf s.datas d) a ∨ s.heap.length = a := fun a => by
    rw [hd, owns_concat]
    exact or_congr Iff.rfl ⟨fun h => by cases h; rfl, fun h => by rw [h]⟩
  have hlen : (s.heap ++ [some (⟨[], 1⟩ : Cell)]).length = s.heap.length + 1 := List.length_append
  have := hs.extended d fmts' datas' [some ⟨[], 1⟩] [] hother
    (fun c hc => ⟨[], List.mem_singleton.1 hc⟩)
    (hd ▸ slotsInj_concat (hs.inj d) (fun a ha ho => by cases ha; exact Nat.lt_irrefl _ (oldLt _ ho)))
    (fun a ha => ((hown a).1 ha).imp id fun h => by rw [← h, hlen]; exact ⟨Nat.le_refl _, Nat.lt_succ_self _⟩)
    (fun a h1 h2 => (hown a).2 (Or.inr (Nat.le_antisymm h1 (Nat.le_of_lt_succ (hlen ▸ h2 :)))))
    (fun a => ⟨fun h => (nomatch h), fun h => absurd ((hown a).2 (Or.inl h.1)) h.2⟩)
  rw [List.append_nil] at this
  exact this

/-! ## Records: building blocks at the level of `Inv` -/

/-- how a new list of records relates to the old one: only position `d` differs -/
structure OnlyAt (datas datas' : List (Option Data)) (d : Nat) (x : Option Data) : Prop where
  other : ∀ i, i ≠ d → datas'[i]? = datas[i]?
  self : datas'[d]? = some x

theorem OnlyAt.set {datas : List (Option Data)} (hd : d < datas.length) (x : Option Data) :
    OnlyAt datas (datas.set d x) d x :=
  ⟨fun _ hi => List.getElem?_set_ne (Ne.symm hi), List.getElem?_set_self hd⟩

theorem OnlyAt.append (datas : List (Option Data)) (x : Option Data) :
    OnlyAt datas (datas ++ [x]) datas.length x :=
  ⟨fun _ hi => getElem?_concat_of_ne x hi, List.getElem?_concat_length⟩

theorem OnlyAt.set_set {datas : List (Option Data)} (hd : d < datas.length) (y x : Option Data) :
    OnlyAt (datas.set d y) (datas.set d x) d x :=
  ⟨fun _ hi => (List.getElem?_set_ne (Ne.symm hi)).trans (List.getElem?_set_ne (Ne.symm hi)).symm,
   List.getElem?_set_self hd⟩

theorem OnlyAt.valsOf_other {datas datas' : List (Option Data)} {x : Option Data}
    (h : OnlyAt datas datas' d x) (i : Nat) (hi : i ≠ d) : valsOf datas' i = valsOf datas i := by
  unfold valsOf; rw [h.other i hi]

theorem OnlyAt.valsOf_self_block {datas datas' : List (Option Data)} {fm : Option Nat}
    (h : OnlyAt datas datas' d (some ⟨fm, some b⟩)) : valsOf datas' d = b.vals := by
  unfold valsOf; rw [h.self]

theorem OnlyAt.valsOf_self_noblock {datas datas' : List (Option Data)} {fm : Option Nat}
    (h : OnlyAt datas datas' d (some ⟨fm, none⟩)) : valsOf datas' d = [] := by
  unfold valsOf; rw [h.self]

theorem OnlyAt.valsOf_self_none {datas datas' : List (Option Data)}
    (h : OnlyAt datas datas' d none) : valsOf datas' d = [] := by
  unfold valsOf; rw [h.self]

theorem OnlyAt.cases {datas datas' : List (Option Data)} {x : Option Data}
    (h : OnlyAt datas datas' d x) (hi : datas'[i]? = some (some dat)) :
    (i = d ∧ x = some dat) ∨ datas[i]? = some (some dat) := by
  by_cases hid : i = d
  · subst hid
    exact Or.inl ⟨rfl, Option.some.inj (h.self.symm.trans hi)⟩
  · exact Or.inr ((h.other i hid).symm.trans hi)

theorem datasOk_onlyAt (hs : Inv al s) {datas' : List (Option Data)}
    {x : Option Data} (h : OnlyAt s.datas datas' d x) (hx : ∀ dat, x = some dat → DataOk al s.fmts dat) :
    ∀ (i : Nat) (dat : Data), datas'[i]? = some (some dat) → DataOk al s.fmts dat :=
  fun i dat hi => (h.cases hi).elim (fun h' => hx dat h'.2) (hs.datas i dat)

theorem dataOk_noblock {fmts : List Format} {fm : Option Nat}
    (h : ∀ fid, fm = some fid → ∃ f, fmts[fid]? = some f) : DataOk al fmts ⟨fm, none⟩ := by
  unfold DataOk
  cases fm with
  | none => rfl
  | some fid => exact (h fid rfl).imp fun f hf => ⟨hf, fun b hb => nomatch hb⟩

theorem dataOk_block {fmts : List Format}
    (hf : fmts[fid]? = some f) (hb : BlockOk al f b) : DataOk al fmts ⟨some fid, some b⟩ :=
  ⟨f, hf, fun _ hb' => Option.some.inj hb' ▸ hb⟩

theorem Inv.block (hs : Inv al s)
     (hd : s.datas[d]? = some (some dat)) (hfid : dat.fmt = some fid) (hf : s.fmts[fid]? = some f)
    (hb : dat.block = some b) : BlockOk al f b ∧ slotsInj b.vals ∧ ownedLive s.heap b.vals := by
  have hdo := hs.datas d dat hd
  unfold DataOk at hdo
  rw [hfid] at hdo
  obtain ⟨f0, hf0, hb0⟩ := hdo
  cases hf.symm.trans hf0
  have hv := valsOf_of_block hd hb
  exact ⟨hb0 b hb, hv ▸ hs.heap.inj d, hv ▸ hs.heap.ownedLive d⟩

theorem blockOk_full {vs : List Val} (hf : FormatOk al f)
    (hlen : vs.length = f.byIndex.length) (hty : typed f.byIndex vs) : BlockOk al f ⟨f.size, vs⟩ :=
  ⟨Nat.le_of_eq hlen, by show f.size = _; rw [hlen, List.take_length, hf.size], hty⟩

/-- `h` is the heap of `s` after record `d` released its block: exactly the cells it owned are freed -/
def Released (s : State) (d : Nat) (h : Heap) : Prop :=
  h.length = s.heap.length ∧ (∀ a, owns (valsOf s.datas d) a → h[a]? = some none) ∧
    (∀ a, ¬ owns (valsOf s.datas d) a → h[a]? = s.heap[a]?)

theorem format_release_spec (hs : Inv al s)
     (hd : s.datas[d]? = some (some dat)) (hfid : dat.fmt = some fid) (hf : s.fmts[fid]? = some f)
    (hr : f.release s.heap dat.block = .ok h) : Released s d h := by
  unfold Released
  cases hblk : dat.block with
  | none =>
    rw [hblk] at hr
    cases hr
    rw [valsOf_eq hd, hblk]
    exact ⟨rfl, fun a ha => absurd ha (owns_nil a), fun _ _ => rfl⟩
  | some b =>
    rw [hblk] at hr
    obtain ⟨hbo, hinj, hlive⟩ := hs.block hd hfid hf hblk
    rw [valsOf_of_block hd hblk]
    have hr : (if spMisaligned (f.byIndex.take b.vals.length) = true then Except.error Err.ubMisaligned
        else releaseVals s.heap f.byIndex b.vals) = .ok h := hr
    split at hr
    · cases hr
    · rcases releaseVals_spec f.byIndex s.heap b.vals hbo.len hbo.typed hinj hlive with he | ⟨h', h1, r⟩
      · cases he.symm.trans hr
      · cases h1.symm.trans hr
        exact r

theorem Inv.afterRelease (hs : Inv al s)
    {datas' : List (Option Data)} {x : Option Data} (ho : OnlyAt s.datas datas' d x)
    (hx : x = none ∨ ∃ fm, x = some ⟨fm, none⟩ ∧ ∀ fid, fm = some fid → ∃ f, s.fmts[fid]? = some f)
    (hr : Released s d h) : Inv al ⟨s.fmts, datas', h, s.leaked⟩ := by
  obtain ⟨hlen, hfreed, hkept⟩ := hr
  have hd : valsOf datas' d = [] := by
    rcases hx with rfl | ⟨fm, rfl, _⟩
    · exact ho.valsOf_self_none
    · exact ho.valsOf_self_noblock
  refine ⟨hs.fmts, datasOk_onlyAt hs ho fun dat hdat => ?_,
    hs.heap.cleared d s.fmts datas' h ho.valsOf_other hlen (fun a ha => absurd (hd ▸ ha) (owns_nil a))
      (fun a ha _ => hfreed a ha) hkept (hd ▸ slotsInj_nil)⟩
  rcases hx with rfl | ⟨fm, rfl, hfm⟩
  · cases hdat
  · cases hdat; exact dataOk_noblock hfm

/-- `m_data = m_format->alloc()` into a record that owns nothing -/
theorem Inv.allocInto (hs : Inv al s)
    {b : Option Block} {datas' : List (Option Data)}
    (ho : OnlyAt s.datas datas' d (some ⟨some fid, b⟩)) (hempty : valsOf s.datas d = [])
    (hf : s.fmts[fid]? = some f) (ha : f.alloc s.heap true = (b, h')) :
    Inv al ⟨s.fmts, datas', h', s.leaked⟩ := by
  unfold Format.alloc at ha
  split at ha
  · -- m_size == 0: NULL
    cases ha
    refine ⟨hs.fmts, datasOk_onlyAt hs ho fun dat hdat => ?_, hs.heap.congr _ _ fun x k a => ?_⟩
    · cases hdat
      exact dataOk_noblock fun _ h => Option.some.inj h ▸ ⟨f, hf⟩
    · by_cases hx : x = d
      · rw [hx, ho.valsOf_self_noblock, hempty]
      · rw [ho.valsOf_other x hx]
  · rw [if_pos rfl] at ha
    cases ha
    obtain ⟨i1, ity, ⟨extra, i2, i2'⟩, ifr⟩ := allocVals_spec f.byIndex s.heap
    refine ⟨hs.fmts, datasOk_onlyAt hs ho fun dat hdat => ?_, ?_⟩
    · cases hdat
      exact dataOk_block hf (blockOk_full (hs.fmts fid f hf) i1 ity)
    · have := hs.heap.fresh d s.fmts datas' extra [] ho.valsOf_other
        (fun a => by rw [hempty]; exact ⟨fun h => (nomatch h), fun h => absurd h (owns_nil a)⟩)
        (fun c hc => ⟨[], i2' c hc⟩) (by rw [ho.valsOf_self_block, ← i2]; exact ifr)
      rw [← i2, List.append_nil] at this
      exact this

/-- `memcpy` of the block of record `e` + the deep copy loop, into record `d` (a new record, one
    without block, or, `operator=` with equal formats, one whose own smart pointers go to `L`) -/
theorem Inv.deepCopyInto (hs : Inv al s) {e : Nat} {src : Data}
     {vals : List Val} {datas' : List (Option Data)} {L : List Addr}
    (ho : OnlyAt s.datas datas' d (some ⟨some fid, some ⟨f.size, vals⟩⟩))
    (hsrc : s.datas[e]? = some (some src)) (hsf : src.fmt = some fid) (hsb : src.block = some b)
    (hf : s.fmts[fid]? = some f) (hfull : ¬ b.size < f.size)
    (hL : ∀ a, a ∈ L ↔ owns (valsOf s.datas d) a)
    (hc : deepCopyVals s.heap f.byIndex b.vals b.vals = .ok (vals, h')) :
    Inv al ⟨s.fmts, datas', h', s.leaked ++ L⟩ := by
  have hfo := hs.fmts fid f hf
  obtain ⟨hbo, -, hlive⟩ := hs.block hsrc hsf hf hsb
  have hlenb := hbo.full_of_not_lt hfo hfull
  rcases deepCopyVals_spec f.byIndex s.heap b.vals hlenb hbo.typed hlive with
    he | ⟨vs', h'', extra, h1, h2, h3, h4, hty, hfr, -⟩
  · cases he.symm.trans hc
  · cases h1.symm.trans hc
    subst h2
    refine ⟨hs.fmts, datasOk_onlyAt hs ho fun dat hdat => ?_,
      hs.heap.fresh d s.fmts datas' extra L ho.valsOf_other hL h3 (ho.valsOf_self_block ▸ hfr)⟩
    cases hdat
    exact dataOk_block hf (blockOk_full hfo (h4.trans hlenb) hty)

/-- `DataFormat::clear` / `clearAll` on the block of record `d` -/
theorem Inv.clearInto (hs : Inv al s) {all : Bool}
      {vs : List Val}
    (hd : s.datas[d]? = some (some dat)) (hfid : dat.fmt = some fid) (hblk : dat.block = some b)
    (hf : s.fmts[fid]? = some f)
    (hc : clearVals all s.heap f.byIndex b.vals = .ok (vs, h')) :
    Inv al ⟨s.fmts, s.datas.set d (some { dat with block := some { b with vals := vs } }), h', s.leaked⟩ ∧
    vs.length = b.vals.length ∧
    (∀ (k : Nat) (v : Val) (a : Attr), b.vals[k]? = some v → f.byIndex[k]? = some a →
      vs[k]? = some (if all || !a.persistent then zeroVal a.dtype else v)) ∧
    (∀ a, owns vs a → h'[a]? = s.heap[a]?) ∧
    (∀ a, ¬ owns b.vals a → h'[a]? = s.heap[a]?) := by
  obtain ⟨hbo, hinj, hlive⟩ := hs.block hd hfid hf hblk
  have hv : valsOf s.datas d = b.vals := valsOf_of_block hd hblk
  rcases clearVals_spec all f.byIndex s.heap b.vals hbo.len hbo.typed hinj hlive with
    he | ⟨vs', h'', h1, h2, h3, h4, h5, h6, h7, h8⟩
  · cases he.symm.trans hc
  · cases h1.symm.trans hc
    have ho := OnlyAt.set (lt_of_getElem?_some hd) (some ({ dat with block := some { b with vals := vs } } : Data))
    have hvals := ho.valsOf_self_block
    refine ⟨⟨hs.fmts, datasOk_onlyAt hs ho fun dat' hdat' => ?_, ?_⟩, h3, h4, fun a ha => (h5 a ha).2, h7⟩
    · cases hdat'
      refine hfid ▸ dataOk_block hf ⟨h3 ▸ hbo.len, (by rw [h3]; exact hbo.size), fun k v att hvk hatt => ?_⟩
      -- a value of the new block is the zero pattern or the old value
      obtain ⟨w, hbk⟩ : ∃ w, b.vals[k]? = some w := ⟨_, List.getElem?_eq_getElem (h3 ▸ lt_of_getElem?_some hvk)⟩
      cases hvk.symm.trans (h4 k _ att hbk hatt)
      show Val.hasType (if _ then _ else _) att.dtype = true
      split
      · exact zeroVal_hasType _
      · exact hbo.typed k _ att hbk hatt
    · exact hs.heap.cleared d s.fmts _ h' ho.valsOf_other h2 (hvals ▸ hv ▸ h5) (hvals ▸ hv ▸ h6) (hv ▸ h7)
        (hvals ▸ h8)

theorem Released.kept (hr : Released s d h) (a : Nat) (c : Cell)
    (hc : s.heap[a]? = some (some c)) (ho : ¬ owns (valsOf s.datas d) a) : h[a]? = some (some c) :=
  (hr.2.2 a ho).trans hc

theorem Format.alloc_kept {b : Option Block} (ha : f.allocSp h = .ok (b, h'))
    (a : Nat) (c : Cell) (hc : h[a]? = some (some c)) : h'[a]? = some (some c) := by
  have ha := allocSp_ok ha
  unfold Format.alloc at ha
  split at ha
  · cases ha; exact hc
  · simp only [if_true, Prod.mk.injEq] at ha
    obtain ⟨_, _, ⟨extra, i2, _⟩, _⟩ := allocVals_spec f.byIndex h
    rw [← ha.2, i2]; exact heap_append_keep extra hc

theorem deepCopy_props (hs : Inv al s) {e : Nat} {src : Data}
     {vals : List Val}
    (hsrc : s.datas[e]? = some (some src)) (hsf : src.fmt = some fid) (hsb : src.block = some b)
    (hf : s.fmts[fid]? = some f) (hfull : ¬ b.size < f.size)
    (hc : deepCopyVals s.heap f.byIndex b.vals b.vals = .ok (vals, h')) :
    (∀ (a : Nat) (c : Cell), s.heap[a]? = some (some c) → h'[a]? = some (some c)) ∧
      ∀ (k : Nat) (v : Val), b.vals[k]? = some v →
        ∃ v' : Val, vals[k]? = some v' ∧ ∀ r, resolve s.heap v = .ok r → resolve h' v' = .ok r := by
  obtain ⟨hbo, _, hlive⟩ := hs.block hsrc hsf hf hsb
  have hlenb := hbo.full_of_not_lt (hs.fmts fid f hf) hfull
  rcases deepCopyVals_spec f.byIndex s.heap b.vals hlenb hbo.typed hlive with he | ⟨vs', h'', extra, h1, h2, -, -, -, -, h8⟩
  · cases he.symm.trans hc
  · cases h1.symm.trans hc
    exact ⟨fun a c hc => h2 ▸ heap_append_keep extra hc, h8⟩

end Sympler.DataFormat
