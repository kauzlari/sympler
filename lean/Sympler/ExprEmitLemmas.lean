import Sympler.ExprDblLemmas

/-!
# C03 — the emitter against the interpreter

`toCE_agree`: the C value of every component of `toCE env t` is the corresponding component of
`denote env t` (`Agree`); with `toCE_dbl` this is `C03_emit_sound`.

Core Lean only.
-/
namespace Sympler.Expr

/-! ## `Agree`: the value of a C term -/

/-- the C term evaluates to `x` and has the C type `double` (so that a division in it is the real
quotient, not the truncating `int / int`) -/
def Agree (env : Env) (e : CE) (x : Rat) : Prop :=
  evalCX env e.abs = .ok x ∧ e.abs.isInt = false

theorem abs_par (x : CE) : (CE.par x).abs = x.abs := by rfl
theorem abs_castd (sp : Bool) (x : CE) : (CE.castd sp x).abs = .castd x.abs := by rfl

theorem evalCX_lit {env : Env} {t : List Char} {r : Rat}
    (h : decimalVal (t.dropWhile isSpace) = some r) : evalCX env (CE.lit t).abs = .ok r := by
  simp [CE.abs, litAbs, h, evalCX]

namespace Agree

variable {env : Env} {a b c : CE} {x y z : Rat} {sp : Bool}

theorem par (h : Agree env a x) : Agree env (.par a) x := by
  unfold Agree; rw [abs_par]; exact h

theorem castd (h : evalCX env a.abs = .ok x) : Agree env (.castd sp a) x := by
  unfold Agree; rw [abs_castd]; exact ⟨h, rfl⟩

theorem neg (h : Agree env a x) : Agree env (.neg a) (-x) := by
  simp [Agree, CE.abs, evalCX, CX.isInt, h.1, h.2, bind, Except.bind, pure, Except.pure]

theorem add (ha : Agree env a x) (hb : Agree env b y) : Agree env (.bin '+' sp a b) (x + y) := by
  simp [Agree, CE.abs, copOf, evalCX, CX.isInt, ha.1, hb.1, ha.2, bind, Except.bind, pure, Except.pure]

theorem sub (ha : Agree env a x) (hb : Agree env b y) : Agree env (.bin '-' sp a b) (x - y) := by
  simp [Agree, CE.abs, copOf, evalCX, CX.isInt, ha.1, hb.1, ha.2, bind, Except.bind, pure, Except.pure]

theorem mul (ha : Agree env a x) (hb : Agree env b y) : Agree env (.bin '*' sp a b) (x * y) := by
  simp [Agree, CE.abs, copOf, evalCX, CX.isInt, ha.1, hb.1, ha.2, bind, Except.bind, pure, Except.pure]

/-- the quotient of two `double` terms is the real quotient: no truncation, whatever the values -/
theorem div (ha : Agree env a x) (hb : Agree env b y) (hy : y ≠ 0) :
    Agree env (.bin '/' sp a b) (x / y) := by
  simp [Agree, CE.abs, copOf, evalCX, CX.isInt, ha.1, hb.1, ha.2, hy, bind, Except.bind, pure,
    Except.pure]

theorem gt0 (hc : Agree env c x) (ha : Agree env a y) (hb : Agree env b z) :
    Agree env (.gt0 c a b) (if x > 0 then y else z) := by
  by_cases hx : x > 0 <;>
    simp [Agree, CE.abs, evalCX, CX.isInt, hc.1, ha.1, hb.1, ha.2, hx, bind, Except.bind]

theorem call {f : String} (ha : Agree env a x) (hf : libFn env f x = .ok y) : Agree env (.call f a) y := by
  simp [Agree, CE.abs, evalCX, CX.isInt, ha.1, hf, bind, Except.bind]

theorem pow (ha : Agree env a x) (hb : Agree env b y) (hp : powRat env x y = .ok z) :
    Agree env (.pow a b) z := by
  simp [Agree, CE.abs, evalCX, CX.isInt, ha.1, hb.1, hp, bind, Except.bind]

theorem load (k : Nat) : Agree env (.load (8 * k)) (env.mem k) := by
  simp [Agree, CE.abs, evalCX, CX.isInt]

theorem lit00 : Agree env (.lit ['0', '.', '0']) 0 := ⟨evalCX_lit (by decide +kernel), by decide⟩
theorem lit10 : Agree env (.lit ['1', '.', '0']) 1 := ⟨evalCX_lit (by decide +kernel), by decide⟩

end Agree

/-! ## Component-wise -/

def All₂ {α β : Type} (R : α → β → Prop) : List α → List β → Prop
  | [], [] => True
  | a :: as, x :: xs => R a x ∧ All₂ R as xs
  | _, _ => False

theorem All₂.map {α β γ δ : Type} {R : α → β → Prop} {S : γ → δ → Prop} {f : α → γ} {g : β → δ}
    (h : ∀ ⦃a x⦄, R a x → S (f a) (g x)) : ∀ {as xs}, All₂ R as xs → All₂ S (as.map f) (xs.map g)
  | [], [], _ => trivial
  | _ :: _, _ :: _, hr => ⟨h hr.1, All₂.map h hr.2⟩

theorem All₂.zipWith {α β γ δ : Type} {R : α → β → Prop} {S : γ → δ → Prop} {f : α → α → γ}
    {g : β → β → δ} (h : ∀ ⦃a x b y⦄, R a x → R b y → S (f a b) (g x y)) :
    ∀ {as xs bs ys}, All₂ R as xs → All₂ R bs ys → All₂ S (List.zipWith f as bs) (List.zipWith g xs ys)
  | [], [], _, _, _, _ => trivial
  | _ :: _, _ :: _, [], [], _, _ => trivial
  | _ :: _, _ :: _, _ :: _, _ :: _, ha, hb => ⟨h ha.1 hb.1, All₂.zipWith h ha.2 hb.2⟩

theorem All₂.zip_map {α β γ : Type} {P : α → Prop} {R : α → β → Prop} {S : γ → β → Prop} {f : α → γ}
    (h : ∀ ⦃a x⦄, P a → R a x → S (f a) x) : ∀ {as xs}, All₂ R as xs → (∀ a ∈ as, P a) →
      (as.map f).length = xs.length ∧ ∀ p ∈ (as.map f).zip xs, S p.1 p.2
  | [], [], _, _ => ⟨rfl, fun _ hp => nomatch hp⟩
  | a :: _, _ :: _, hr, hp => by
    obtain ⟨hl, hz⟩ := All₂.zip_map h hr.2 fun b hb => hp b (List.mem_cons_of_mem _ hb)
    refine ⟨congrArg (· + 1) hl, fun p hq => ?_⟩
    rcases List.mem_cons.mp hq with rfl | hq
    · exact h (hp a (List.mem_cons_self ..)) hr.1
    · exact hz p hq

theorem Agree.chain_add {env : Env} {sp : Bool} : ∀ {xs : List CE} {ys : List Rat} {acc : CE} {a : Rat},
    Agree env acc a → All₂ (Agree env) xs ys → Agree env (chain '+' sp acc xs) (ys.foldl (· + ·) a)
  | [], [], _, _, h, _ => h
  | x :: _, y :: _, acc, a, h, hx =>
    Agree.chain_add (acc := .bin '+' sp acc x) (a := a + y) (h.add hx.1) hx.2

def Val.Rel {α β : Type} (R : α → β → Prop) : Val α → Val β → Prop
  | .s e, .s x => R e x
  | .v e, .v x => R e.x x.x ∧ R e.y x.y ∧ R e.z x.z
  | .t e, .t x =>
    R e.xx x.xx ∧ R e.xy x.xy ∧ R e.xz x.xz ∧ R e.yx x.yx ∧ R e.yy x.yy ∧ R e.yz x.yz ∧
    R e.zx x.zx ∧ R e.zy x.zy ∧ R e.zz x.zz
  | _, _ => False

namespace Val.Rel

variable {α β γ δ : Type} {R : α → β → Prop} {S : γ → δ → Prop}

theorem toList {c : Val α} {v : Val β} (h : Rel R c v) : All₂ R c.toList v.toList := by
  cases c <;> cases v <;> first | exact h.elim | simpa [Rel, Val.toList, V3.toList, M9.toList, All₂] using h

theorem mapM {f : α → γ} {g : β → Except Err δ} : ∀ {c : Val α} {v : Val β} {w : Val δ}, Rel R c v →
    v.mapM g = .ok w → (∀ ⦃e x y⦄, R e x → g x = .ok y → S (f e) y) → Rel S (c.map f) w
  | .s _, .s _, _, h, hw, hf => by
    obtain ⟨y, hy, hw⟩ := bind_ok hw
    cases hw
    exact hf h hy
  | .v _, .v _, _, ⟨h0, h1, h2⟩, hw, hf => by
    obtain ⟨y, hy, hw⟩ := bind_ok hw
    cases hw
    obtain ⟨k0, k1, k2⟩ := V3.mapM_ok hy
    exact ⟨hf h0 k0, hf h1 k1, hf h2 k2⟩
  | .t _, .t _, _, ⟨h0, h1, h2, h3, h4, h5, h6, h7, h8⟩, hw, hf => by
    obtain ⟨y, hy, hw⟩ := bind_ok hw
    cases hw
    obtain ⟨k0, k1, k2, k3, k4, k5, k6, k7, k8⟩ := M9.mapM_ok hy
    exact ⟨hf h0 k0, hf h1 k1, hf h2 k2, hf h3 k3, hf h4 k4, hf h5 k5, hf h6 k6, hf h7 k7, hf h8 k8⟩

theorem map {f : α → γ} {g : β → δ} {c : Val α} {v : Val β} (h : Rel R c v)
    (hf : ∀ ⦃e x⦄, R e x → S (f e) (g x)) : Rel S (c.map f) (v.map g) :=
  h.mapM (g := fun x => .ok (g x)) (by cases v <;> rfl) fun _ _ _ hr hy => by cases hy; exact hf hr

theorem zipM {f : α → α → γ} {g : β → β → Except Err δ} {a b : Val α} {x y : Val β} {c : Val γ}
    {v : Val δ} (ha : Rel R a x) (hb : Rel R b y) (hc : Val.zipM (fun p q => .ok (f p q)) a b = .ok c)
    (hv : Val.zipM g x y = .ok v) (hf : ∀ ⦃p q r s t⦄, R p r → R q s → g r s = .ok t → S (f p q) t) :
    Rel S c v := by
  cases a <;> cases x <;> (try exact ha.elim) <;> cases b <;> cases y <;> (try exact hb.elim) <;>
    cases hc <;> (obtain ⟨t, ht, hv⟩ := bind_ok hv; cases hv)
  · exact hf ha hb ht
  · obtain ⟨k0, k1, k2⟩ := V3.mapM_ok ht
    exact ⟨hf ha.1 hb.1 k0, hf ha.2.1 hb.2.1 k1, hf ha.2.2 hb.2.2 k2⟩
  · obtain ⟨a0, a1, a2, a3, a4, a5, a6, a7, a8⟩ := ha
    obtain ⟨b0, b1, b2, b3, b4, b5, b6, b7, b8⟩ := hb
    obtain ⟨k0, k1, k2, k3, k4, k5, k6, k7, k8⟩ := M9.mapM_ok ht
    exact ⟨hf a0 b0 k0, hf a1 b1 k1, hf a2 b2 k2, hf a3 b3 k3, hf a4 b4 k4, hf a5 b5 k5,
      hf a6 b6 k6, hf a7 b7 k7, hf a8 b8 k8⟩

end Val.Rel

/-! ## The binary operators -/

theorem contractC_agree {env : Env} {a b : CE} {as bs : List CE} {x y : Rat} {xs ys : List Rat}
    (ha : All₂ (Agree env) (a :: as) (x :: xs)) (hb : All₂ (Agree env) (b :: bs) (y :: ys)) :
    Agree env (.par (chain '+' false (mulC a b) (List.zipWith mulC as bs)))
      ((List.zipWith (· * ·) xs ys).foldl (· + ·) (x * y)) :=
  (Agree.chain_add (ha.1.mul hb.1) (All₂.zipWith (fun _ _ _ _ h k => h.mul k) ha.2 hb.2)).par

theorem row3C_agree {env : Env} {a0 a1 a2 : CE} {b : V3 CE} {x0 x1 x2 : Rat} {y : V3 Rat}
    (h0 : Agree env a0 x0) (h1 : Agree env a1 x1) (h2 : Agree env a2 x2)
    (hb : Val.Rel (Agree env) (.v b) (.v y)) :
    Agree env (row3C a0 a1 a2 b) (x0 * y.x + x1 * y.y + x2 * y.z) :=
  (((h0.mul hb.1).add (h1.mul hb.2.1)).add (h2.mul hb.2.2)).par

theorem dotEntryC_agree {env : Env} {a0 a1 a2 b0 b1 b2 : CE} {x0 x1 x2 y0 y1 y2 : Rat}
    (h0 : Agree env a0 x0) (h1 : Agree env a1 x1) (h2 : Agree env a2 x2)
    (k0 : Agree env b0 y0) (k1 : Agree env b1 y1) (k2 : Agree env b2 y2) :
    Agree env (dotEntryC a0 a1 a2 b0 b1 b2) (x0 * y0 + x1 * y1 + x2 * y2) :=
  (((h0.mul k0).par.add (h1.mul k1).par).add (h2.mul k2).par).par.par

theorem emitBin_agree {env : Env} {op : BinOp} {ca cb c : Val CE} {va vb v : Val Rat}
    (ha : Val.Rel (Agree env) ca va) (hb : Val.Rel (Agree env) cb vb)
    (hc : emitBin op ca cb = .ok c) (hv : evalBin env op va vb = .ok v) : Val.Rel (Agree env) c v := by
  cases op with
  | add => exact ha.zipM hb hc hv fun _ _ _ _ _ h k hz => by cases hz; exact (h.add k).par
  | sub => exact ha.zipM hb hc hv fun _ _ _ _ _ h k hz => by cases hz; exact (h.sub k).par
  | mul =>
    have zip {ca cb c : Val CE} {va vb v : Val Rat} (ha : Val.Rel (Agree env) ca va)
        (hb : Val.Rel (Agree env) cb vb)
        (hc : Val.zipM (fun x y => .ok (.par (mulC x y))) ca cb = .ok c)
        (hv : Val.zipM (fun x y => .ok (x * y)) va vb = .ok v) : Val.Rel (Agree env) c v :=
      ha.zipM hb hc hv fun _ _ _ _ _ h k hz => by cases hz; exact (h.mul k).par
    cases ca <;> cases va <;> try exact ha.elim
    · cases hc; cases hv; exact hb.map fun _ _ h => (Agree.mul ha h).par
    all_goals cases cb <;> cases vb <;> try exact hb.elim
    · cases hc; cases hv; exact ha.map fun _ _ h => (Agree.mul hb h).par
    · exact zip ha hb hc hv
    · cases hc
    · cases hc; cases hv; exact ha.map fun _ _ h => (Agree.mul hb h).par
    · cases hc
    · exact zip ha hb hc hv
  | div =>
    cases cb <;> cases vb <;> try exact hb.elim
    · cases hc
      exact ha.mapM hv fun _ _ _ h hy => by
        obtain ⟨h0, rfl⟩ := divRat_ok hy; exact (h.div hb h0).par
    all_goals
      exact ha.zipM hb hc hv fun _ _ _ _ _ h k hz => by
        obtain ⟨h0, rfl⟩ := divRat_ok hz; exact (h.div k h0).par
  | contract =>
    cases ca <;> cases va <;> (try exact ha.elim) <;> cases cb <;> cases vb <;> (try exact hb.elim) <;>
      cases hc <;> cases hv
    · exact contractC_agree ha.toList hb.toList
    · obtain ⟨a0, a1, a2, a3, a4, a5, a6, a7, a8⟩ := ha
      exact ⟨row3C_agree a0 a1 a2 hb, row3C_agree a3 a4 a5 hb, row3C_agree a6 a7 a8 hb⟩
    · exact contractC_agree ha.toList hb.toList
  | dot =>
    cases ca <;> cases va <;> (try exact ha.elim) <;> cases cb <;> cases vb <;> (try exact hb.elim) <;>
      cases hc <;> cases hv
    obtain ⟨a0, a1, a2, a3, a4, a5, a6, a7, a8⟩ := ha
    obtain ⟨b0, b1, b2, b3, b4, b5, b6, b7, b8⟩ := hb
    exact ⟨dotEntryC_agree a0 a1 a2 b0 b3 b6, dotEntryC_agree a0 a1 a2 b1 b4 b7,
      dotEntryC_agree a0 a1 a2 b2 b5 b8, dotEntryC_agree a3 a4 a5 b0 b3 b6,
      dotEntryC_agree a3 a4 a5 b1 b4 b7, dotEntryC_agree a3 a4 a5 b2 b5 b8,
      dotEntryC_agree a6 a7 a8 b0 b3 b6, dotEntryC_agree a6 a7 a8 b1 b4 b7,
      dotEntryC_agree a6 a7 a8 b2 b5 b8⟩
  | outer =>
    cases ca <;> cases va <;> (try exact ha.elim) <;> cases cb <;> cases vb <;> (try exact hb.elim) <;>
      cases hc <;> cases hv
    exact ⟨(ha.1.mul hb.1).par, (ha.1.mul hb.2.1).par, (ha.1.mul hb.2.2).par,
      (ha.2.1.mul hb.1).par, (ha.2.1.mul hb.2.1).par, (ha.2.1.mul hb.2.2).par,
      (ha.2.2.mul hb.1).par, (ha.2.2.mul hb.2.1).par, (ha.2.2.mul hb.2.2).par⟩
  | pow => cases hc

/-! ## The unary functions -/

theorem qC_agree {env : Env} {a : CE} {as : List CE} {x : Rat} {xs : List Rat}
    (h : All₂ (Agree env) (a :: as) (x :: xs)) :
    Agree env (.par (chain '+' true (.par (mulC (.par a) (.par a)))
      (as.map fun e => .par (mulC (.par e) (.par e))))) ((xs.map fun x => x * x).foldl (· + ·) (x * x)) :=
  (Agree.chain_add (h.1.par.mul h.1.par).par (All₂.map (fun _ _ k => (k.par.mul k.par).par) h.2)).par

theorem emitFn_agree {env : Env} {f : Fn} {ca c : Val CE} {va v : Val Rat}
    (ha : Val.Rel (Agree env) ca va) (hc : emitFn f ca = .ok c) (hv : evalFn env f va = .ok v) :
    Val.Rel (Agree env) c v := by
  have z : Agree env zeroC 0 := Agree.lit00.par
  cases f
  case lib n cn => cases hc; exact ha.mapM hv fun _ _ _ h hy => h.call hy
  case uran => cases hv
  case step => cases hc; cases hv; exact ha.map fun _ _ h => (Agree.gt0 h.par .lit10 .lit00).par
  case stpVal => cases hc; cases hv; exact ha.map fun _ _ h => (Agree.gt0 h.par h.par .lit00).par
  case Q =>
    cases ca <;> cases va <;> (try exact ha.elim) <;> cases hc <;> cases hv <;> exact qC_agree ha.toList
  -- the other functions accept one shape only: that of the term and that of the value are forced
  all_goals cases ca <;> cases va <;> (try exact ha.elim) <;> cases hc <;> cases hv
  case det =>
    obtain ⟨xx, xy, xz, yx, yy, yz, zx, zy, zz⟩ := ha
    have minor {p q r s : CE} {x y z w : Rat} (hp : Agree env p x) (hq : Agree env q y)
        (hr : Agree env r z) (hs : Agree env s w) :
        Agree env (.par (.bin '-' false (mulC p q) (mulC r s))) (x * y - z * w) :=
      ((hp.mul hq).sub (hr.mul hs)).par
    exact (((xz.mul (minor yx zy yy zx)).add (xy.mul (minor yz zx yx zz))).add
      (xx.mul (minor yy zz yz zy))).par
  case diagMat => exact ⟨ha.1.par, z, z, z, ha.2.1.par, z, z, z, ha.2.2.par⟩
  case idVec => exact ⟨Agree.par ha, Agree.par ha, Agree.par ha⟩
  case idMat => exact ⟨Agree.par ha, z, z, z, Agree.par ha, z, z, z, Agree.par ha⟩
  case T =>
    obtain ⟨a0, a1, a2, a3, a4, a5, a6, a7, a8⟩ := ha
    exact ⟨a0.par, a3.par, a6.par, a1.par, a4.par, a7.par, a2.par, a5.par, a8.par⟩
  case trace =>
    obtain ⟨a0, _, _, _, a4, _, _, _, a8⟩ := ha
    exact ((a0.add a4).add a8).par
  case unitMat =>
    exact ⟨Agree.par ha, Agree.par ha, Agree.par ha, Agree.par ha, Agree.par ha, Agree.par ha,
      Agree.par ha, Agree.par ha, Agree.par ha⟩
  case uVecX => exact ⟨Agree.par ha, z, z⟩
  case uVecY => exact ⟨z, Agree.par ha, z⟩
  case uVecZ => exact ⟨z, z, Agree.par ha⟩
  case xyMat =>
    obtain ⟨a0, a1, _, a3, a4, _, _, _, _⟩ := ha
    exact ⟨a0.par, a1.par, z, a3.par, a4.par, z, z, z, z⟩
  case xCoord => exact ha.1.par
  case yCoord => exact ha.2.1.par
  case zCoord => exact ha.2.2.par

/-! ## Leaves -/

theorem natCast_toNat_eq (r : Rat) (h : r.den = 1) (h0 : 0 ≤ r.num) :
    ((r.num.toNat : Nat) : Rat) = r := by
  apply Rat.ext
  · simp; omega
  · simp [h]

theorem constC_agree {env : Env} {t : String} {r : Rat} (h : numVal t = .ok r) :
    Agree env (constC t r) r := by
  refine ⟨?_, (constC_dbl h).dbl⟩
  unfold constC
  split
  next hc =>
    refine evalCX_lit (env := env) ?_
    rw [(intLit_facts _ _).1, decimalVal_intLit, natCast_toNat_eq r hc.1 hc.2.1]
  next => exact evalCX_lit (env := env) (numVal_ok h)

theorem symC_agree {env : Env} {n : String} {c : Val CE} {v : Val Rat}
    (hc : symC env n = .ok c) (hv : env.lookup n = .ok v) : Val.Rel (Agree env) c v := by
  have ld (slot i : Nat) : Agree env (loadC slot i) (env.mem (slot + i)) := (Agree.load _).par
  unfold symC at hc
  unfold Env.lookup at hv
  cases hf : env.find n with
  | none => rw [hf] at hc; cases hc
  | some d =>
    simp only [hf] at hc hv
    cases hty : d.ty <;> simp only [hty] at hc hv <;> cases hc <;> cases hv
    · exact ld _ _
    · exact ⟨ld _ _, ld _ _, ld _ _⟩
    · exact ⟨ld _ _, ld _ _, ld _ _, ld _ _, ld _ _, ld _ _, ld _ _, ld _ _, ld _ _⟩

/-! ## The power operator -/

theorem lookupNull_ne_ok (env : Env) (n : String) (v : Val Rat) : env.lookupNull n ≠ .ok v := by
  unfold Env.lookupNull
  cases env.find n <;> simp

/-- a constant sub-expression (evaluated without looking at any variable) has the same value in the
interpreter -/
theorem eval_null_ok (env : Env) : ∀ (t : Tree) (v : Val Rat),
    eval env env.lookupNull t = .ok v → eval env env.lookup t = .ok v := by
  intro t
  induction t with
  | sym n => intro v h; exact absurd h (lookupNull_ne_ok env n v)
  | num s => intro v h; exact h
  | pi => intro v h; exact h
  | neg a ih =>
    intro v h
    simp only [eval] at h ⊢
    obtain ⟨va, ha, h⟩ := bind_ok h
    rw [ih va ha]; exact h
  | bin op a b iha ihb =>
    intro v h
    simp only [eval] at h ⊢
    obtain ⟨va, ha, h⟩ := bind_ok h
    obtain ⟨vb, hb, h⟩ := bind_ok h
    rw [iha va ha, ihb vb hb]; exact h
  | fn f a ih =>
    intro v h
    simp only [eval] at h ⊢
    obtain ⟨va, ha, h⟩ := bind_ok h
    rw [ih va ha]; exact h

theorem rat_pow_ne_zero {x : Rat} (h : x ≠ 0) (m : Nat) : x ^ m ≠ 0 := by
  induction m with
  | zero => simp
  | succ k ih =>
    rw [Rat.pow_succ]
    intro h0
    rcases Rat.mul_eq_zero.mp h0 with h1 | h1
    · exact ih h1
    · exact h h1

theorem Agree.chain_pow {env : Env} {a : CE} {x : Rat} (ha : Agree env a x) :
    ∀ (k : Nat) {acc : CE} {y : Rat}, Agree env acc y →
      Agree env (chain '*' false acc (List.replicate k a)) (y * x ^ k)
  | 0, _, _, h => by rw [Rat.pow_zero, Rat.mul_one]; exact h
  | k+1, acc, y, h => by
    have e : y * x * x ^ k = y * x ^ (k + 1) := by rw [Rat.pow_succ, Rat.mul_comm (x ^ k), Rat.mul_assoc]
    exact e ▸ Agree.chain_pow ha k (h.mul (sp := false) ha)

theorem powC_agree {env : Env} {a b r : CE} {x y z : Rat} {vb : Except Err (Val Rat)}
    (ha : Agree env a x) (hb : Agree env b y) (hvb : ∀ w, vb = .ok w → w = .s y)
    (hc : powC a b vb = .ok r) (hz : powRat env x y = .ok z) : Agree env r z := by
  have pc (n : Nat) (hn : 1 ≤ n) : Agree env (powChainC a n) (x ^ n) := by
    obtain ⟨m, rfl⟩ : ∃ m, n = m + 1 := ⟨n - 1, by omega⟩
    have e : x * x ^ m = x ^ (m + 1) := by rw [Rat.pow_succ, Rat.mul_comm]
    exact e ▸ Agree.chain_pow ha m ha
  rcases powC_ok hc with rfl | ⟨e, he, hden, hmax, hcase⟩
  · exact (ha.pow hb hz).par
  · obtain rfl : e = y := by injection hvb _ he
    unfold powRat at hz
    rw [if_pos hden, if_neg hmax] at hz
    rcases hcase with ⟨hp, rfl⟩ | ⟨h0, rfl⟩ | ⟨hn, rfl⟩
    · rw [if_pos (by omega)] at hz
      cases hz
      exact (pc _ (by omega)).par
    · rw [if_pos (by omega), h0, Int.toNat_zero, Rat.pow_zero] at hz
      cases hz
      exact Agree.lit10.par
    · rw [if_neg (by omega)] at hz
      split at hz
      · cases hz
      next hx0 =>
        cases hz
        exact (Agree.lit10.div (pc _ (by omega)).par (rat_pow_ne_zero hx0 _)).par

/-! ## The whole tree -/

theorem toCE_agree (env : Env) (t : Tree) (c : Val CE) (v : Val Rat) (hc : toCE env t = .ok c)
    (hv : denote env t = .ok v) : Val.Rel (Agree env) c v := by
  induction t generalizing c v with
  | sym n => exact symC_agree hc hv
  | num s =>
    obtain ⟨r, hr, hc⟩ := bind_ok hc
    obtain ⟨r', hr', hv⟩ := bind_ok hv
    obtain rfl : r = r' := Except.ok.inj (hr.symm.trans hr')
    cases hc; cases hv
    exact constC_agree hr
  | pi =>
    obtain ⟨r, hr, hv⟩ := bind_ok hv
    cases hc; cases hv
    exact (Agree.castd (a := .par .mpi) hr).par
  | neg a ih =>
    obtain ⟨ca, hca, hc⟩ := bind_ok hc
    obtain ⟨va, hva, hv⟩ := bind_ok hv
    cases hc; cases hv
    exact (ih ca va hca hva).map fun _ _ h => h.neg.par
  | bin op a b iha ihb =>
    obtain ⟨va, hva, hv⟩ := bind_ok hv
    obtain ⟨vb, hvb, hv⟩ := bind_ok hv
    by_cases hop : op = .pow
    · subst hop
      rw [toCE_bin_pow] at hc
      obtain ⟨ca, hca, hc⟩ := bind_ok hc
      obtain ⟨cb, hcb, hc⟩ := bind_ok hc
      have ga := iha ca va hca hva
      have gb := ihb cb vb hcb hvb
      cases ca <;> cases va <;> (try exact ga.elim) <;>
      cases cb <;> cases vb <;> (try exact gb.elim) <;> (try cases hc) <;> try cases hv
      obtain ⟨r, hr, hc⟩ := bind_ok hc
      obtain ⟨z, hz, hv⟩ := bind_ok hv
      cases hc; cases hv
      refine powC_agree ga gb (fun w hw => ?_) hr hz
      exact (Except.ok.inj ((eval_null_ok env b w hw).symm.trans hvb))
    · rw [toCE_bin_nonpow hop] at hc
      obtain ⟨ca, hca, hc⟩ := bind_ok hc
      obtain ⟨cb, hcb, hc⟩ := bind_ok hc
      exact emitBin_agree (iha ca va hca hva) (ihb cb vb hcb hvb) hc hv
  | fn f a ih =>
    obtain ⟨ca, hca, hc⟩ := bind_ok hc
    obtain ⟨va, hva, hv⟩ := bind_ok hv
    exact emitFn_agree (ih ca va hca hva) hc hv

end Sympler.Expr
