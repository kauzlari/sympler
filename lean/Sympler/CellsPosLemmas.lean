import Sympler.CellsSweepLemmas

/-!
Positions: invariant (5) of C09 (after every `integrateStep1` each registered particle lies in its cell), the
initial assignment (invariant and (5) together), the exactness of the periodic wrap, no erase inside the walls, and the
characterisation of the errors of the state machine.  Core Lean only.
-/
namespace Sympler.Cells
open Sympler Sympler.Grid Sympler.Gen.CellTables

attribute [local irreducible] checkNewPosition updateCell

/-- from a state satisfying the invariant an operation can only fail with an allowed error: no `abort()`
in the link counters, no iteration bound, no "no cell" -/
theorem applyOp_err {S : Sys} (hG : GridOK S.G) {U UF : List (Nat × Nat)} {s : St} (h : Inv S U UF s)
    (op : Op) {e : Err} (he : applyOp S s op = .error e) : Err.Allowed S.G e := by
  cases op with
  | move k ms =>
    have h0 := setPositions_inv k ms h
    obtain ⟨L, hL, _⟩ := h0.book.act
    have he' : sweep S k (setPositions k ms s) = .error e := he
    rw [sweep_eq_sweepList hG k h0 hL.cl] at he'
    exact sweepList_ind hG k (fun _ _ => True) (fun _ _ _ _ _ _ _ => trivial) L _ h0 trivial _ he'
  | commit =>
    obtain ⟨s2, e2, _⟩ := commitAll_inv hG h
    have he' : commitAll S s = .error e := he
    rw [e2] at he'; simp at he'

/-! ### invariant (5): positions lie in the cells -/

/-- ε-containment of `r` in cell `c` (`cuboid_t::isInsideEps` with `g_geom_eps`) -/
def InEps (S : Sys) (c : Nat) (r : V3 Rat) : Prop :=
  isInsideEps (S.G.cells.getD c default).c1 (S.G.cells.getD c default).c2 r S.eps = true

/-- (5): every registered particle (free list, injection buffer, frozen list) lies in its cell -/
structure PosOK (S : Sys) (s : St) : Prop where
  free : ∀ c k p, p ∈ s.freeAt c k → InEps S c (s.posAt k p)
  inj : ∀ c k p, p ∈ s.injAt c k → InEps S c (s.posAt k p)
  frozen : ∀ c k p, p ∈ s.frozenAt c k → InEps S c (s.fposAt k p)

/-- (5) during the sweep of colour `k`: particles of colour `k` that are still `pend`ing may be anywhere -/
structure SweepPos (S : Sys) (k : Nat) (pend : Nat → Nat → Prop) (s : St) : Prop where
  other : ∀ c k' p, k' ≠ k → p ∈ s.freeAt c k' → InEps S c (s.posAt k' p)
  inj : ∀ c k' p, p ∈ s.injAt c k' → InEps S c (s.posAt k' p)
  done : ∀ c p, p ∈ s.freeAt c k → ¬ pend c p → InEps S c (s.posAt k p)
  frozen : ∀ c k' p, p ∈ s.frozenAt c k' → InEps S c (s.fposAt k' p)

theorem CheckOutcome.injAt_eq {S : Sys} {s s' : St} {c k p : Nat} (h : CheckOutcome S s s' c k p) :
    (∀ c' k', s'.injAt c' k' = s.injAt c' k') ∨
    (∃ t, ∀ c' k', s'.injAt c' k' = if c' = t ∧ k' = k then s.injAt t k ++ [p] else s.injAt c' k') := by
  cases h with
  | stay h _ => left; intro c' k'; rw [h]
  | erased hfree hinj => left; intro c' k'; simp only [St.injAt, hinj]
  | moved t n ht hn hout outside hfree hinj =>
    right; exact ⟨t, fun c' k' => by simp only [St.injAt, hinj, get_setAt]⟩

theorem CheckOutcome.frozen_eq {S : Sys} {s s' : St} {c k p : Nat} (h : CheckOutcome S s s' c k p) :
    s'.frozen = s.frozen ∧ s'.fpos = s.fpos := by
  cases h with
  | stay h _ => rw [h]; exact ⟨rfl, rfl⟩
  | erased hfree hinj hfrozen hpos hfpos => exact ⟨hfrozen, hfpos⟩
  | moved t n ht hn hout outside hfree hinj hfrozen hpos hfpos => exact ⟨hfrozen, hfpos⟩

theorem CheckOutcome.posAt_ne {S : Sys} {s s' : St} {c k p : Nat} (h : CheckOutcome S s s' c k p)
    {k' p' : Nat} (hne : ¬ (k' = k ∧ p' = p)) : s'.posAt k' p' = s.posAt k' p' := by
  cases h with
  | stay h _ => rw [h]
  | erased hfree hinj hfrozen hpos => simp only [St.posAt, hpos]
  | moved t n ht hn hout outside hfree hinj hfrozen hpos =>
    simp only [St.posAt, hpos, get_setAt, hne, if_false]

/-- one `checkNewPosition` of the sweep of colour `k` in cell `c0`, remaining cells `cs` -/
theorem sweepPos_step {S : Sys} (he : 0 ≤ S.eps) {U UF : List (Nat × Nat)} {k c0 : Nat} {cs : List Nat}
    {s s' : St} {p0 : Nat} {ps : List Nat} (h : Inv S U UF s) (hp0 : p0 ∈ s.freeAt c0 k) (hp0n : p0 ∉ ps)
    (hQ : SweepPos S k (fun c p => c ∈ cs ∨ (c = c0 ∧ p ∈ p0 :: ps)) s)
    (out : CheckOutcome S s s' c0 k p0) :
    SweepPos S k (fun c p => c ∈ cs ∨ (c = c0 ∧ p ∈ ps)) s' := by
  have hnd := h.free_nodup c0 k
  -- a particle of another list is a different particle
  have hdiff : ∀ c p, p ∈ s.freeAt c k → (c ≠ c0 ∨ p ∈ (s.freeAt c0 k).erase p0) → p ≠ p0 := by
    intro c p hp hc e
    subst e
    rcases hc with hc | hc
    · exact hc (h.unique hp0 (Or.inl hp)).1
    · exact ((List.Nodup.mem_erase_iff hnd).mp hc).1 rfl
  have hinjne : ∀ c k' p, p ∈ s.injAt c k' → ¬ (k' = k ∧ p = p0) := by
    rintro c k' p hp ⟨rfl, rfl⟩
    have := (h.unique hp0 (Or.inr hp)).1
    subst this
    exact (h.unique hp0 (Or.inr hp)).2 hp
  obtain ⟨hfz, hfp⟩ := out.frozen_eq
  have hfrozen : ∀ c k' p, p ∈ s'.frozenAt c k' → InEps S c (s'.fposAt k' p) := by
    intro c k' p hp
    simp only [St.frozenAt, St.fposAt, hfz, hfp] at hp ⊢
    exact hQ.frozen c k' p hp
  -- common part of the two outcomes in which the particle leaves the free list of `c0`
  have left_aux : (∀ c' k', s'.freeAt c' k' =
        if c' = c0 ∧ k' = k then (s.freeAt c0 k).erase p0 else s.freeAt c' k') →
      (∀ c k' p, p ∈ s'.injAt c k' → p ∈ s.injAt c k' ∨ (k' = k ∧ p = p0 ∧ InEps S c (s'.posAt k p0))) →
      SweepPos S k (fun c p => c ∈ cs ∨ (c = c0 ∧ p ∈ ps)) s' := by
    intro hf hi
    have hmemfree : ∀ c k' p, p ∈ s'.freeAt c k' → p ∈ s.freeAt c k' ∧ (k' = k → p ≠ p0) := by
      intro c k' p hp
      rw [hf c k'] at hp
      by_cases hck : c = c0 ∧ k' = k
      · obtain ⟨rfl, rfl⟩ := hck
        simp only [and_self, if_true] at hp
        exact ⟨List.mem_of_mem_erase hp, fun _ => ((List.Nodup.mem_erase_iff hnd).mp hp).1⟩
      · simp only [hck, if_false] at hp
        refine ⟨hp, ?_⟩
        rintro rfl
        have : c ≠ c0 := fun e => hck ⟨e, rfl⟩
        exact hdiff c p hp (Or.inl this)
    refine ⟨?_, ?_, ?_, hfrozen⟩
    · intro c k' p hk hp
      obtain ⟨hp1, _⟩ := hmemfree c k' p hp
      rw [out.posAt_ne (fun hh => hk hh.1)]
      exact hQ.other c k' p hk hp1
    · intro c k' p hp
      rcases hi c k' p hp with hp | ⟨rfl, rfl, hin⟩
      · rw [out.posAt_ne (hinjne c k' p hp)]
        exact hQ.inj c k' p hp
      · exact hin
    · intro c p hp hnp
      obtain ⟨hp1, hp2⟩ := hmemfree c k p hp
      rw [out.posAt_ne (fun hh => hp2 rfl hh.2)]
      apply hQ.done c p hp1
      rintro (hc | ⟨hc, hpp⟩)
      · exact hnp (Or.inl hc)
      · rcases List.mem_cons.mp hpp with e | e
        · exact hp2 rfl e
        · exact hnp (Or.inr ⟨hc, e⟩)
  cases out with
  | stay hs inside =>
    subst hs
    refine ⟨hQ.other, hQ.inj, ?_, hQ.frozen⟩
    intro c p hp hnp
    by_cases hcp : c = c0 ∧ p = p0
    · obtain ⟨rfl, rfl⟩ := hcp; exact inside
    · apply hQ.done c p hp
      rintro (hc | ⟨hc, hpp⟩)
      · exact hnp (Or.inl hc)
      · rcases List.mem_cons.mp hpp with e | e
        · exact hcp ⟨hc, e⟩
        · exact hnp (Or.inr ⟨hc, e⟩)
  | erased hfree hinj hfrozen' hpos hfpos herased hout _ =>
    apply left_aux
    · intro c' k'; simp only [St.freeAt, hfree, get_setAt]
    · intro c k' p hp; left; simpa only [St.injAt, hinj] using hp
  | moved t n ht hn hout outside hfree hinj hfrozen' hpos hfpos herased inside =>
    apply left_aux
    · intro c' k'; simp only [St.freeAt, hfree, get_setAt]
    · intro c k' p hp
      simp only [St.injAt, hinj, get_setAt] at hp
      by_cases hck : c = t ∧ k' = k
      · obtain ⟨rfl, rfl⟩ := hck
        simp only [and_self, if_true, List.mem_append, List.mem_singleton] at hp
        rcases hp with hp | rfl
        · exact Or.inl hp
        · right
          refine ⟨rfl, rfl, ?_⟩
          unfold InEps
          have : s'.posAt k' p = wrapPos (S.G.cells.getD c0 default) (S.G.cells.getD c default) n
              (s.posAt k' p) := by
            simp only [St.posAt, hpos, get_setAt, and_self, if_true]
          rw [this]
          exact isInsideEps_of_isInside he inside
      · simp only [hck, if_false] at hp
        exact Or.inl hp

theorem free_empty_of_inactive {S : Sys} {U UF : List (Nat × Nat)} {s : St} (h : Inv S U UF s)
    {L : List Nat} (hL : s.act.cl.Repr L) {c : Nat} (hc : c ∉ L) (k : Nat) : s.freeAt c k = [] := by
  obtain ⟨L0, hL0, hiff⟩ := h.book.act
  have hLL : L = L0 := DLL.repr_unique hL hL0.cl
  subst hLL
  by_cases hk : c < S.nCells ∧ k < S.nCol
  · have h0 : s.nPart.get c = 0 := by
      have := mt (hiff c).mpr hc; omega
    rw [h.book.npart c] at h0
    have := term_le_sum (fun k => (s.freeAt c k).length + (s.frozenAt c k).length) S.nCol k hk.2
    unfold cellCount at h0
    have hl : (s.freeAt c k).length = 0 := by omega
    exact List.length_eq_zero_iff.mp hl
  · exact (h.supp c k hk).1

theorem sweep_pos {S : Sys} (hG : GridOK S.G) (he : 0 ≤ S.eps) {U UF : List (Nat × Nat)} {k : Nat}
    {s s' : St} (h : Inv S U UF s)
    (hother : ∀ c k' p, k' ≠ k → p ∈ s.freeAt c k' → InEps S c (s.posAt k' p))
    (hinj : ∀ c k' p, p ∈ s.injAt c k' → InEps S c (s.posAt k' p))
    (hfrozen : ∀ c k' p, p ∈ s.frozenAt c k' → InEps S c (s.fposAt k' p))
    (e : sweep S k s = .ok s') : Inv S U UF s' ∧ PosOK S s' := by
  obtain ⟨L, hL, _⟩ := h.book.act
  rw [sweep_eq_sweepList hG k h hL.cl] at e
  have hR0 : L.Nodup ∧ SweepPos S k (fun c _ => c ∈ L) s := by
    refine ⟨hL.cl.nodup, hother, hinj, ?_, hfrozen⟩
    intro c p hp hc
    rw [free_empty_of_inactive h hL.cl hc k] at hp; simp at hp
  obtain ⟨inv', _, hR⟩ := sweepList_ind hG k (fun cs s => cs.Nodup ∧ SweepPos S k (fun c _ => c ∈ cs) s)
    (by
      intro s1 s2 c cs h1 hR1 e1
      obtain ⟨hnd, hR1⟩ := hR1
      have hc : c ∉ cs := (List.nodup_cons.mp hnd).1
      refine ⟨(List.nodup_cons.mp hnd).2, ?_⟩
      rw [updateCell_eq] at e1
      have hQ0 : SweepPos S k (fun c' p => c' ∈ cs ∨ (c' = c ∧ p ∈ s1.freeAt c k)) s1 := by
        refine ⟨hR1.other, hR1.inj, ?_, hR1.frozen⟩
        intro c' p hp hnp
        apply hR1.done c' p hp
        intro hm
        rcases List.mem_cons.mp hm with e | e
        · subst e; exact hnp (Or.inr ⟨rfl, hp⟩)
        · exact hnp (Or.inl e)
      obtain ⟨_, hQ, _⟩ := updateParticles_ind hG c k
        (fun ps st => SweepPos S k (fun c' p => c' ∈ cs ∨ (c' = c ∧ p ∈ ps)) st)
        (fun sa sb p ps ha hp hpn _ hQa out _ => sweepPos_step he ha hp hpn hQa out)
        (s1.freeAt c k) s1 h1 (h1.free_nodup c k) (fun p hp => hp) hQ0 _ e1
      refine ⟨hQ.other, hQ.inj, ?_, hQ.frozen⟩
      intro c' p hp hnp
      apply hQ.done c' p hp
      rintro (hm | ⟨_, hm⟩)
      · exact hnp hm
      · simp at hm)
    L s h hR0 _ e
  refine ⟨inv', ?_, hR.inj, hR.frozen⟩
  intro c k' p hp
  by_cases hk : k' = k
  · subst hk; exact hR.done c p hp (by simp)
  · exact hR.other c k' p hk hp

/-- **one integrator's `integrateStep1` re-establishes (5)**: if before the step every registered particle
lies in its cell (ε-containment) and the injection buffers are empty, then after new positions for colour `k`
(arbitrary!), the sweep and the commit the same holds — unless the step fails. -/
theorem moveColour_pos {S : Sys} (hG : GridOK S.G) (he : 0 ≤ S.eps) {U UF : List (Nat × Nat)} {k : Nat}
    {ms : List (Nat × V3 Rat)} {s s' : St} (h : Inv S U UF s) (hp : PosOK S s)
    (hbuf : ∀ c k', s.injAt c k' = []) (e : moveColour S k ms s = .ok s') :
    Inv S U UF s' ∧ PosOK S s' ∧ ∀ c k', s'.injAt c k' = [] := by
  unfold moveColour invalidatePositions at e
  cases e1 : sweep S k (setPositions k ms s) with
  | error err => rw [e1] at e; simp at e
  | ok s1 =>
    rw [e1] at e
    simp only at e
    obtain ⟨a1, a2, a3, a4, a5, a6, a7, a8⟩ := setPositions_frame k ms s
    have h0 := setPositions_inv k ms h
    obtain ⟨inv1, pos1⟩ := sweep_pos hG he h0
      (by
        intro c k' p hk hm
        rw [a8 k' p hk]
        simp only [St.freeAt, a1] at hm
        exact hp.free c k' p hm)
      (by
        intro c k' p hm
        simp only [St.injAt, a3] at hm
        have := hbuf c k'
        simp only [St.injAt] at this
        rw [this] at hm; simp at hm)
      (by
        intro c k' p hm
        simp only [St.frozenAt, St.fposAt, a2, a6] at hm ⊢
        exact hp.frozen c k' p hm)
      e1
    obtain ⟨s2, e2, inv2, f2, j2, z2, p2, q2, _⟩ := commitAll_inv hG inv1
    rw [e2] at e
    have : s2 = s' := Except.ok.inj e
    subst this
    refine ⟨inv2, ⟨?_, ?_, ?_⟩, j2⟩
    · intro c k' p hm
      rw [f2 c k'] at hm
      simp only [St.posAt, p2]
      rcases List.mem_append.mp hm with hm | hm
      · exact pos1.free c k' p hm
      · exact pos1.inj c k' p hm
    · intro c k' p hm; rw [j2 c k'] at hm; simp at hm
    · intro c k' p hm
      simp only [St.frozenAt, St.fposAt, z2, q2] at hm ⊢
      exact pos1.frozen c k' p hm

/-! ### the initial assignment: invariant and (5) -/

theorem Inv.frozen_mem_UF {S : Sys} {U UF : List (Nat × Nat)} {s : St} (h : Inv S U UF s) {c k p : Nat}
    (hp : p ∈ s.frozenAt c k) : (k, p) ∈ UF := by
  have h1 := term_le_sum (fun c => (s.frozenAt c k).count p) S.nCells c (h.lt_of_mem (Or.inr (Or.inr hp))).1
  have h2 : 0 < (s.frozenAt c k).count p := List.count_pos_iff.mpr hp
  have h3 : 0 < foccOf S s k p := by unfold foccOf; omega
  rw [h.focc k p] at h3
  split at h3
  · assumption
  · omega

/-- the free-particle loop of `assignParticlesToCells` -/
theorem assignFree_spec {S : Sys} : ∀ (fs : List (Nat × Nat × V3 Rat)) {U UF : List (Nat × Nat)} {s s' : St},
    Inv S U UF s → s.erased = [] → (∀ c k p, p ∈ s.injAt c k → InEps S c (s.posAt k p)) →
    (fs.map fun x => (x.1, x.2.1)).Nodup → (∀ x ∈ fs, (x.1, x.2.1) ∉ U ∧ x.1 < S.nCol) → assignFree S fs s = .ok s' →
    Inv S ((fs.map fun x => (x.1, x.2.1)).reverse ++ U) UF s' ∧ s'.erased = [] ∧
      (∀ c k p, p ∈ s'.injAt c k → InEps S c (s'.posAt k p)) ∧ s'.free = s.free ∧ s'.frozen = s.frozen ∧
      s'.fpos = s.fpos := by
  intro fs
  induction fs with
  | nil =>
    intro U UF s s' h hE hpos _ _ e
    cases Except.ok.inj e
    exact ⟨by simpa using h, hE, hpos, rfl, rfl, rfl⟩
  | cons x fs ih =>
    intro U UF s s' h hE hpos hn hx e
    obtain ⟨k0, p0, r⟩ := x
    simp only [assignFree] at e
    cases hf : findCell S.G S.eps r with
    | none => rw [hf] at e; simp at e
    | some c0 =>
      rw [hf] at e
      obtain ⟨hc, hin⟩ := findCell_lt hf
      obtain ⟨hU0, hk0⟩ := hx (k0, p0, r) (by simp)
      simp only [List.map_cons, List.nodup_cons] at hn
      obtain ⟨inv2, e2, pos2, f2, z2, q2⟩ := ih (injectFree_inv h hc hk0 hU0 hE r) hE
        (by
          -- the buffers after `injectFree`: the old entries (other particles, positions untouched) and the new one
          intro c k p hp
          simp only [St.injAt, injectFree, get_setAt] at hp
          simp only [St.posAt, injectFree, get_setAt]
          have old : p ∈ s.injAt c k → InEps S c (if k = k0 ∧ p = p0 then r else (s.pos.get k).get p) := fun hp => by
            rw [if_neg fun hh => hU0 (by rw [← hh.1, ← hh.2]; exact (h.registered (Or.inr hp)).2.2.1)]
            exact hpos c k p hp
          split at hp
          · rename_i hck
            obtain ⟨rfl, rfl⟩ := hck
            rcases List.mem_append.mp hp with hp | hp
            · exact old hp
            · rw [List.mem_singleton.mp hp, if_pos ⟨rfl, rfl⟩]; exact hin
          · exact old hp)
        hn.2
        (fun y hy => ⟨by
          simp only [List.mem_cons, not_or]
          exact ⟨fun heq => hn.1 (heq ▸ List.mem_map.mpr ⟨y, hy, rfl⟩), (hx y (by simp [hy])).1⟩,
          (hx y (by simp [hy])).2⟩) e
      exact ⟨by simpa [List.append_assoc] using inv2, e2, pos2, f2, z2, q2⟩

/-- the frozen-particle loop of `assignParticlesToCells`; the argument is that of `assignFree_spec` -/
theorem assignFrozen_spec {S : Sys} (hG : GridOK S.G) :
    ∀ (fs : List (Nat × Nat × V3 Rat)) {U UF : List (Nat × Nat)} {s s' : St},
    Inv S U UF s → s.erased = [] → (∀ c k p, p ∈ s.frozenAt c k → InEps S c (s.fposAt k p)) →
    (fs.map fun x => (x.1, x.2.1)).Nodup → (∀ x ∈ fs, (x.1, x.2.1) ∉ UF ∧ x.1 < S.nCol) → assignFrozen S fs s = .ok s' →
    Inv S U ((fs.map fun x => (x.1, x.2.1)).reverse ++ UF) s' ∧ s'.erased = [] ∧
      (∀ c k p, p ∈ s'.frozenAt c k → InEps S c (s'.fposAt k p)) ∧ s'.free = s.free ∧ s'.inj = s.inj ∧
      s'.pos = s.pos := by
  intro fs
  induction fs with
  | nil =>
    intro U UF s s' h hE hpos _ _ e
    cases Except.ok.inj e
    exact ⟨by simpa using h, hE, hpos, rfl, rfl, rfl⟩
  | cons x fs ih =>
    intro U UF s s' h hE hpos hn hx e
    obtain ⟨k0, p0, r⟩ := x
    simp only [assignFrozen] at e
    cases hf : findCell S.G S.eps r with
    | none => rw [hf] at e; simp at e
    | some c0 =>
      rw [hf] at e
      obtain ⟨hc, hin⟩ := findCell_lt hf
      obtain ⟨hU0, hk0⟩ := hx (k0, p0, r) (by simp)
      simp only [List.map_cons, List.nodup_cons] at hn
      obtain ⟨s1, e1, inv1, er1, g1, g2, g3, g4, g5⟩ := injectFrozen_inv hG
        (s := { s with fpos := setAt s.fpos k0 p0 r }) ⟨⟨h.book.act, h.book.npart⟩, h.occ, h.focc, h.supp⟩ hc hk0 hU0
      simp only [e1] at e
      obtain ⟨inv2, e2, pos2, f2, j2, q2⟩ := ih inv1 (er1.trans hE)
        (by
          intro c k p hp
          simp only [St.frozenAt, g5, get_setAt] at hp
          simp only [St.fposAt, g4, get_setAt]
          have old : p ∈ s.frozenAt c k → InEps S c (if k = k0 ∧ p = p0 then r else (s.fpos.get k).get p) := fun hp => by
            rw [if_neg fun hh => hU0 (by rw [← hh.1, ← hh.2]; exact h.frozen_mem_UF hp)]
            exact hpos c k p hp
          split at hp
          · rename_i hck
            obtain ⟨rfl, rfl⟩ := hck
            rcases List.mem_append.mp hp with hp | hp
            · exact old hp
            · rw [List.mem_singleton.mp hp, if_pos ⟨rfl, rfl⟩]; exact hin
          · exact old hp)
        hn.2
        (fun y hy => ⟨by
          simp only [List.mem_cons, not_or]
          exact ⟨fun heq => hn.1 (heq ▸ List.mem_map.mpr ⟨y, hy, rfl⟩), (hx y (by simp [hy])).1⟩,
          (hx y (by simp [hy])).2⟩) e
      exact ⟨by simpa [List.append_assoc] using inv2, e2, pos2, f2.trans g1, j2.trans g2, q2.trans g3⟩

/-- `Phase::assignParticlesToCells` establishes the invariant, with all buffers empty, and (5) -/
theorem assignParticlesToCells_spec {S : Sys} (hG : GridOK S.G) {free frozen : List (Nat × Nat × V3 Rat)}
    (hfn : (free.map fun x => (x.1, x.2.1)).Nodup) (hzn : (frozen.map fun x => (x.1, x.2.1)).Nodup)
    (hfc : ∀ x ∈ free, x.1 < S.nCol) (hzc : ∀ x ∈ frozen, x.1 < S.nCol) {s : St}
    (e : assignParticlesToCells S free frozen = .ok s) :
    Inv S (free.map fun x => (x.1, x.2.1)) (frozen.map fun x => (x.1, x.2.1)) s ∧
      (∀ c k, s.injAt c k = []) ∧ s.erased = [] ∧ PosOK S s := by
  unfold assignParticlesToCells at e
  cases e1 : assignFree S free St.init with
  | error err => rw [e1] at e; simp at e
  | ok s1 =>
    rw [e1] at e
    simp only at e
    obtain ⟨inv1, er1, p1, f1, z1, q1⟩ := assignFree_spec free (inv_init S) rfl
      (by intro c k p hp; simp [St.init, St.injAt] at hp) hfn (fun x hx => ⟨by simp, hfc x hx⟩) e1
    cases e2 : assignFrozen S frozen s1 with
    | error err => rw [e2] at e; simp at e
    | ok s2 =>
      rw [e2] at e
      simp only at e
      obtain ⟨inv2, er2, p2, f2, j2, q2⟩ := assignFrozen_spec hG frozen inv1 er1
        (by intro c k p hp; simp [St.frozenAt, z1, St.init] at hp) hzn (fun x hx => ⟨by simp, hzc x hx⟩) e2
      obtain ⟨s3, e3, inv3, f3, j3, z3, pp3, fp3, r3⟩ := commitAll_inv hG inv2
      rw [e3] at e
      cases Except.ok.inj e
      refine ⟨⟨inv3.book, ?_, ?_, inv3.supp⟩, j3, r3.trans er2, ?_, ?_, ?_⟩
      · intro k p; rw [inv3.occ k p]; simp only [List.mem_append, List.mem_reverse, List.not_mem_nil, or_false]
      · intro k p; rw [inv3.focc k p]; simp only [List.mem_append, List.mem_reverse, List.not_mem_nil, or_false]
      · intro c k p hp
        have hfree2 : s2.freeAt c k = [] := by simp [St.freeAt, f2, f1, St.init]
        rw [f3 c k, hfree2, List.nil_append] at hp
        simp only [St.posAt, pp3, q2]
        simp only [St.injAt, j2] at hp
        exact p1 c k p hp
      · intro c k p hp; rw [j3 c k] at hp; simp at hp
      · intro c k p hp
        simp only [St.frozenAt, St.fposAt, z3, fp3] at hp ⊢
        exact p2 c k p hp

/-! ### exact wrap, no erase inside walls -/

/-- a position that failed the `isInsideEps` test (with `eps ≥ 0`) has a non-zero leave offset, hence the
direction index `n` decodes back to that offset -/
theorem leaveOffset_decode {cg : CellGeom} {r : V3 Rat} {eps : Rat} (he : 0 ≤ eps)
    (hout : isInsideEps cg.c1 cg.c2 r eps = false) :
    offsets.getD (offset2neighbor (leaveOffset cg r)).toNat (0, 0, 0) = leaveOffset cg r := by
  have inside : ∀ {x a b : Rat}, offComponent x a b = 0 → a ≤ x ∧ x < b := fun {x a b} h => by
    rcases offComponent_spec x a b with ⟨e, _⟩ | ⟨_, h'⟩ | ⟨e, _⟩
    · exact absurd (e.symm.trans h) (by decide)
    · exact h'
    · exact absurd (e.symm.trans h) (by decide)
  have hne : leaveOffset cg r ≠ (0, 0, 0) := fun h0 => by
    have hin := (isInside_iff cg.c1 cg.c2 r).mpr
      ⟨inside (congrArg (·.1) h0), inside (congrArg (·.2.1) h0), inside (congrArg (·.2.2) h0)⟩
    rw [isInsideEps_of_isInside he hin] at hout
    exact absurd hout (by decide)
  exact (off_range _ (offComponent_mem _ _ _) _ (offComponent_mem _ _ _) _ (offComponent_mem _ _ _) hne).2.2

/-- **exactness of the wrap**: the position handed to the outlet cell differs from the integrated
position by `∓(box length)` exactly in the periodic directions in which the particle is beyond the box
face, and by nothing in the others -/
theorem wrapPos_exact {S : Sys} {per : V3 Bool} (hGeo : GeomOK S.G per) (he : 0 ≤ S.eps) {c t n : Nat}
    {r : V3 Rat} (hc : c < S.nCells)
    (hn : n = (offset2neighbor (leaveOffset (S.G.cells.getD c default) r)).toNat)
    (hout : S.G.outAt c n = [t])
    (outside : isInsideEps (S.G.cells.getD c default).c1 (S.G.cells.getD c default).c2 r S.eps = false)
    (inside : isInside (S.G.cells.getD t default).c1 (S.G.cells.getD t default).c2
      (wrapPos (S.G.cells.getD c default) (S.G.cells.getD t default) n r) = true) :
    WrapComp per.1 S.G.c1.1 S.G.c2.1 r.1 (wrapPos (S.G.cells.getD c default) (S.G.cells.getD t default) n r).1 ∧
    WrapComp per.2.1 S.G.c1.2.1 S.G.c2.2.1 r.2.1
      (wrapPos (S.G.cells.getD c default) (S.G.cells.getD t default) n r).2.1 ∧
    WrapComp per.2.2 S.G.c1.2.2 S.G.c2.2.2 r.2.2
      (wrapPos (S.G.cells.getD c default) (S.G.cells.getD t default) n r).2.2 := by
  have hnlt : n < numNeighbors := by rw [hn]; exact leaveOffset_lt _ _
  obtain ⟨d1, d2, d3⟩ := (hGeo c hc n hnlt).1 t (by rw [hout]; simp)
  have hoff : offsets.getD n (0, 0, 0) = leaveOffset (S.G.cells.getD c default) r := by
    rw [hn]; exact leaveOffset_decode he outside
  rw [hoff] at d1 d2 d3
  rw [isInside_iff] at inside
  obtain ⟨i1, i2, i3⟩ := inside
  exact ⟨wrap_dim d1 i1, wrap_dim d2 i2, wrap_dim d3 i3⟩

/-- inside the walls: in every NON-periodic direction the coordinate lies in the box -/
def InWalls (G : Grid.Grid) (per : V3 Bool) (r : V3 Rat) : Prop :=
  (per.1 = false → G.c1.1 ≤ r.1 ∧ r.1 < G.c2.1) ∧ (per.2.1 = false → G.c1.2.1 ≤ r.2.1 ∧ r.2.1 < G.c2.2.1) ∧
  (per.2.2 = false → G.c1.2.2 ≤ r.2.2 ∧ r.2.2 < G.c2.2.2)

/-- a particle inside the walls is never erased, and stays inside the walls when it is wrapped -/
theorem checkOutcome_walls {S : Sys} {per : V3 Bool} (hGeo : GeomOK S.G per) (he : 0 ≤ S.eps)
    {s s' : St} {c k p : Nat} (hc : c < S.nCells) (out : CheckOutcome S s s' c k p)
    (hw : ∀ q, InWalls S.G per (s.posAt k q)) :
    s'.erased = s.erased ∧ ∀ q, InWalls S.G per (s'.posAt k q) := by
  cases out with
  | stay hs _ => subst hs; exact ⟨rfl, hw⟩
  | erased hfree hinj hfrozen hpos hfpos herased hout outside =>
    exfalso
    have hnlt := leaveOffset_lt (S.G.cells.getD c default) (s.posAt k p)
    have hwall := (hGeo c hc _ hnlt).2 hout
    rw [leaveOffset_decode he outside] at hwall
    obtain ⟨w1, w2, w3⟩ := hw p
    have wall : ∀ {per : Bool} {lo hi x a b : Rat}, WallDim per lo hi (offComponent x a b) a b →
        (per = false → lo ≤ x ∧ x < hi) → False := fun {per lo hi x a b} hwd hin => by
      obtain ⟨hp, hw⟩ := hwd
      obtain ⟨i1, i2⟩ := hin hp
      rcases offComponent_spec x a b with ⟨e, h'⟩ | ⟨e, _⟩ | ⟨e, h'⟩ <;> rw [e] at hw
      · rcases hw with ⟨ho, _⟩ | ⟨_, ea⟩
        · exact absurd ho (by decide)
        · exact Rat.not_le.mpr (ea ▸ h') i1
      · rcases hw with ⟨ho, _⟩ | ⟨ho, _⟩ <;> exact absurd ho (by decide)
      · rcases hw with ⟨_, eb⟩ | ⟨ho, _⟩
        · exact Rat.not_lt.mpr (eb ▸ h') i2
        · exact absurd ho (by decide)
    rcases hwall with h | h | h
    · exact wall h w1
    · exact wall h w2
    · exact wall h w3
  | moved t n ht hn hout outside hfree hinj hfrozen hpos hfpos herased inside =>
    refine ⟨herased, ?_⟩
    intro q
    by_cases hq : q = p
    · subst hq
      have hq' : s'.posAt k q = wrapPos (S.G.cells.getD c default) (S.G.cells.getD t default) n (s.posAt k q) := by
        simp only [St.posAt, hpos, get_setAt, and_self, if_true]
      rw [hq']
      obtain ⟨c1, c2, c3⟩ := wrapPos_exact hGeo he hc hn hout outside inside
      obtain ⟨w1, w2, w3⟩ := hw q
      unfold WrapComp at c1 c2 c3
      refine ⟨fun hp => ?_, fun hp => ?_, fun hp => ?_⟩
      · have := w1 hp; rw [c1.2.2 this.1 this.2]; exact this
      · have := w2 hp; rw [c2.2.2 this.1 this.2]; exact this
      · have := w3 hp; rw [c3.2.2 this.1 this.2]; exact this
    · have : s'.posAt k q = s.posAt k q := by
        simp only [St.posAt, hpos, get_setAt, hq, and_false, if_false]
      rw [this]; exact hw q

/-- **no particle is lost in a periodic or wall-closed box**: if after integration every particle of the
moved colour is inside the walls (non-periodic directions), the sweep erases nothing -/
theorem sweep_no_erase {S : Sys} {per : V3 Bool} (hG : GridOK S.G) (hGeo : GeomOK S.G per) (he : 0 ≤ S.eps)
    {U UF : List (Nat × Nat)} {k : Nat} {s s' : St} (h : Inv S U UF s)
    (hw : ∀ q, InWalls S.G per (s.posAt k q)) (e : sweep S k s = .ok s') :
    s'.erased = s.erased ∧ ∀ q, InWalls S.G per (s'.posAt k q) := by
  obtain ⟨L, hL, _⟩ := h.book.act
  rw [sweep_eq_sweepList hG k h hL.cl] at e
  obtain ⟨_, hR⟩ := sweepList_ind hG k
    (fun _ st => st.erased = s.erased ∧ ∀ q, InWalls S.G per (st.posAt k q))
    (by
      intro s1 s2 c cs h1 hR1 e1
      rw [updateCell_eq] at e1
      obtain ⟨_, hQ, _⟩ := updateParticles_ind hG c k
        (fun _ st => st.erased = s.erased ∧ ∀ q, InWalls S.G per (st.posAt k q))
        (by
          intro sa sb p ps ha hp _ _ hQa out _
          have hc := (ha.registered (Or.inl hp)).1
          obtain ⟨r1, r2⟩ := checkOutcome_walls hGeo he hc out hQa.2
          exact ⟨r1.trans hQa.1, r2⟩)
        (s1.freeAt c k) s1 h1 (h1.free_nodup c k) (fun p hp => hp) hR1 _ e1
      exact hQ)
    L s h ⟨rfl, hw⟩ _ e
  exact hR

end Sympler.Cells
