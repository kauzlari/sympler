import Sympler.ExprCLemmas

/-!
# C03 — the emitter produces canonical terms of C type `double`

Purely syntactic (the interpreter is not involved, so expressions whose value is a division by zero, a
random number or an oracle call are covered): `toCE_dbl`, every component of `toCE env t` is a canonical
primary term of C type `double` in which no division has two `int` operands (`DL`, `D`); and
`evalCX_noIntDiv`, such a term never evaluates to `intTrunc` or `intDiv0`.
/repo before commit ad91e0f did emit `int`-typed terms: `ExprHistory.lean`.

Core Lean only.
-/
namespace Sympler.Expr

/-! ## Canonical terms built by the emitter -/

/-- canonical, of level at least `L`, with a harmless first character -/
structure Can (L : Nat) (e : CE) : Prop where
  ok : e.ok = true
  lvl : L ≤ e.lvl
  hd : goodHead e.render = true

-- `by rfl`: the term `rfl` is also checked with reducible unfolding only (for `dsimp`), which is slow here
theorem goodHead_cons (c : Char) (tl : List Char) :
    goodHead (c :: tl) = (!opChar c && c != 'd' && !isSpace c) := by rfl

theorem goodHead_append {a : List Char} (h : goodHead a = true) (b : List Char) :
    goodHead (a ++ b) = true := by
  cases a with
  | nil => cases h
  | cons c tl => exact h

theorem goodHead_facts {a : List Char} (h : goodHead a = true) :
    headNoOp a = true ∧ a.head? ≠ some 'd' ∧ (skipWs a).head?.any (fun c => c != '-') = true := by
  cases a with
  | nil => cases h
  | cons c tl =>
    simp only [goodHead_cons, Bool.and_eq_true, Bool.not_eq_true', bne_iff_ne, ne_eq] at h
    obtain ⟨⟨hop, hd⟩, hs⟩ := h
    have hm : c ≠ '-' := by intro hc; subst hc; cases hop
    rw [skipWs_cons hs]
    simp [headNoOp, hop, hd, hm]

theorem Can.mono {L L' e} (h : Can L e) (hl : L' ≤ L) : Can L' e := ⟨h.ok, Nat.le_trans hl h.lvl, h.hd⟩

theorem can_par {X : CE} (hok : X.ok = true) (hd : X.render.head? ≠ some 'd') : Can 4 (.par X) := by
  refine ⟨?_, Nat.le_refl _, rfl⟩
  simpa [CE.ok, hok] using hd

theorem can_par_can {L} {X : CE} (h : Can L X) : Can 4 (.par X) := can_par h.ok (goodHead_facts h.hd).2.1

theorem can_bin_mul {a b : CE} {op : Char} (sp : Bool) (hop : op = '*' ∨ op = '/')
    (ha : Can 2 a) (hb : Can 3 b) : Can 2 (.bin op sp a b) := by
  refine ⟨?_, by simp [CE.lvl, hop],
    by rw [render_eq (render_bin op sp a b [])]; exact goodHead_append ha.hd _⟩
  have : opChar op = true := by rcases hop with h | h <;> subst h <;> rfl
  simp [CE.ok, hop, this, ha.ok, hb.ok, (goodHead_facts hb.hd).1, ha.lvl, hb.lvl]

theorem can_bin_add {a b : CE} {op : Char} (sp : Bool) (hop : op = '+' ∨ op = '-')
    (ha : Can 1 a) (hb : Can 2 b) : Can 1 (.bin op sp a b) := by
  have hno : ¬ (op = '*' ∨ op = '/') := by rcases hop with h | h <;> subst h <;> decide
  refine ⟨?_, by simp [CE.lvl, hno],
    by rw [render_eq (render_bin op sp a b [])]; exact goodHead_append ha.hd _⟩
  have : opChar op = true := by rcases hop with h | h <;> subst h <;> rfl
  simp [CE.ok, hno, this, ha.ok, hb.ok, (goodHead_facts hb.hd).1, ha.lvl, hb.lvl]

theorem can_chain_add {sp : Bool} : ∀ (xs : List CE) (acc : CE), Can 1 acc → (∀ x ∈ xs, Can 2 x) →
    Can 1 (chain '+' sp acc xs)
  | [], _, h, _ => h
  | x :: xs, _, h, hx =>
    can_chain_add xs _ (can_bin_add sp (Or.inl rfl) h (hx x (List.mem_cons_self ..)))
      (fun y hy => hx y (List.mem_cons_of_mem _ hy))

theorem can_chain_mul {sp : Bool} : ∀ (xs : List CE) (acc : CE), Can 2 acc → (∀ x ∈ xs, Can 3 x) →
    Can 2 (chain '*' sp acc xs)
  | [], _, h, _ => h
  | x :: xs, _, h, hx =>
    can_chain_mul xs _ (can_bin_mul sp (Or.inl rfl) h (hx x (List.mem_cons_self ..)))
      (fun y hy => hx y (List.mem_cons_of_mem _ hy))

theorem can_mulC {a b : CE} (ha : Can 2 a) (hb : Can 3 b) : Can 2 (mulC a b) :=
  can_bin_mul false (Or.inl rfl) ha hb

/-! ## Canonical terms of type `double` -/

theorem isInt_par (x : CE) : (CE.par x).abs.isInt = x.abs.isInt := rfl
theorem nid_par (x : CE) : (CE.par x).abs.noIntDiv = x.abs.noIntDiv := rfl

/-- canonical of level at least `L`, of C type `double`, without `int / int` division -/
structure DL (L : Nat) (e : CE) : Prop where
  can : Can L e
  dbl : e.abs.isInt = false
  nid : e.abs.noIntDiv = true

/-- a component of the emitter's result -/
abbrev D (e : CE) : Prop := DL 4 e

namespace DL

theorem par {L e} (h : DL L e) : D (.par e) :=
  ⟨can_par_can h.can, (isInt_par e).trans h.dbl, (nid_par e).trans h.nid⟩

theorem bin_abs {op sp} {a b : CE} (da : a.abs.isInt = false) (na : a.abs.noIntDiv = true)
    (nb : b.abs.noIntDiv = true) :
    (CE.bin op sp a b).abs.isInt = false ∧ (CE.bin op sp a b).abs.noIntDiv = true := by
  simp [CE.abs, CX.isInt, CX.noIntDiv, da, na, nb]

theorem bin_add {op sp a b La Lb} (hop : op = '+' ∨ op = '-') (ha : DL La a) (hb : DL Lb b)
    (h1 : 1 ≤ La := by decide) (h2 : 2 ≤ Lb := by decide) : DL 1 (.bin op sp a b) :=
  ⟨can_bin_add sp hop (ha.can.mono h1) (hb.can.mono h2), (bin_abs ha.dbl ha.nid hb.nid).1,
    (bin_abs ha.dbl ha.nid hb.nid).2⟩

theorem bin_mul {op sp a b La Lb} (hop : op = '*' ∨ op = '/') (ha : DL La a) (hb : DL Lb b)
    (h1 : 2 ≤ La := by decide) (h2 : 3 ≤ Lb := by decide) : DL 2 (.bin op sp a b) :=
  ⟨can_bin_mul sp hop (ha.can.mono h1) (hb.can.mono h2), (bin_abs ha.dbl ha.nid hb.nid).1,
    (bin_abs ha.dbl ha.nid hb.nid).2⟩

theorem add {sp a b La Lb} (ha : DL La a) (hb : DL Lb b) (h1 : 1 ≤ La := by decide)
    (h2 : 2 ≤ Lb := by decide) : DL 1 (.bin '+' sp a b) := bin_add (.inl rfl) ha hb h1 h2

theorem sub {sp a b La Lb} (ha : DL La a) (hb : DL Lb b) (h1 : 1 ≤ La := by decide)
    (h2 : 2 ≤ Lb := by decide) : DL 1 (.bin '-' sp a b) := bin_add (.inr rfl) ha hb h1 h2

theorem mul {sp a b La Lb} (ha : DL La a) (hb : DL Lb b) (h1 : 2 ≤ La := by decide)
    (h2 : 3 ≤ Lb := by decide) : DL 2 (.bin '*' sp a b) := bin_mul (.inl rfl) ha hb h1 h2

theorem div {sp a b La Lb} (ha : DL La a) (hb : DL Lb b) (h1 : 2 ≤ La := by decide)
    (h2 : 3 ≤ Lb := by decide) : DL 2 (.bin '/' sp a b) := bin_mul (.inr rfl) ha hb h1 h2

theorem mono {L L' e} (h : DL L e) (hl : L' ≤ L := by decide) : DL L' e := ⟨h.can.mono hl, h.dbl, h.nid⟩

theorem chain_abs {op sp} : ∀ (xs : List CE) {acc : CE}, acc.abs.isInt = false →
    acc.abs.noIntDiv = true → (∀ x ∈ xs, x.abs.noIntDiv = true) →
    (chain op sp acc xs).abs.isInt = false ∧ (chain op sp acc xs).abs.noIntDiv = true
  | [], _, d, n, _ => ⟨d, n⟩
  | x :: xs, _, d, n, h =>
    have hb := bin_abs d n (h x (List.mem_cons_self ..))
    chain_abs xs hb.1 hb.2 fun y hy => h y (List.mem_cons_of_mem _ hy)

theorem chain_add {sp xs acc} (h : DL 1 acc) (hx : ∀ x ∈ xs, DL 2 x) : DL 1 (chain '+' sp acc xs) :=
  have ha := chain_abs xs h.dbl h.nid fun x m => (hx x m).nid
  ⟨can_chain_add xs acc h.can fun x m => (hx x m).can, ha.1, ha.2⟩

theorem chain_mul {sp xs acc} (h : DL 2 acc) (hx : ∀ x ∈ xs, DL 3 x) : DL 2 (chain '*' sp acc xs) :=
  have ha := chain_abs xs h.dbl h.nid fun x m => (hx x m).nid
  ⟨can_chain_mul xs acc h.can fun x m => (hx x m).can, ha.1, ha.2⟩

end DL

/-! ## Component-wise -/

def Val.All {α : Type} (P : α → Prop) : Val α → Prop
  | .s e => P e
  | .v e => P e.x ∧ P e.y ∧ P e.z
  | .t e => P e.xx ∧ P e.xy ∧ P e.xz ∧ P e.yx ∧ P e.yy ∧ P e.yz ∧ P e.zx ∧ P e.zy ∧ P e.zz

theorem Val.All.toList {α : Type} {P : α → Prop} {c : Val α} (h : c.All P) : ∀ e ∈ c.toList, P e := by
  cases c <;> simpa [Val.All, Val.toList, V3.toList, M9.toList] using h

theorem Val.All.map {α β : Type} {P : α → Prop} {Q : β → Prop} {f : α → β} :
    ∀ {c : Val α}, c.All P → (∀ {e}, P e → Q (f e)) → (c.map f).All Q
  | .s _, hc, h => h hc
  | .v _, hc, h => ⟨h hc.1, h hc.2.1, h hc.2.2⟩
  | .t _, ⟨a0, a1, a2, a3, a4, a5, a6, a7, a8⟩, h =>
    ⟨h a0, h a1, h a2, h a3, h a4, h a5, h a6, h a7, h a8⟩

theorem Val.All.zipM {P Q : CE → Prop} {f : CE → CE → CE} {a b c : Val CE} (ha : a.All P)
    (hb : b.All P) (hc : Val.zipM (fun x y => .ok (f x y)) a b = .ok c)
    (h : ∀ {x y}, P x → P y → Q (f x y)) : c.All Q := by
  cases a <;> cases b <;> cases hc
  · exact h ha hb
  · exact ⟨h ha.1 hb.1, h ha.2.1 hb.2.1, h ha.2.2 hb.2.2⟩
  · obtain ⟨a0, a1, a2, a3, a4, a5, a6, a7, a8⟩ := ha
    obtain ⟨b0, b1, b2, b3, b4, b5, b6, b7, b8⟩ := hb
    exact ⟨h a0 b0, h a1 b1, h a2 b2, h a3 b3, h a4 b4, h a5 b5, h a6 b6, h a7 b7, h a8 b8⟩

/-! ## The binary operators -/

theorem forall_mem_zipWith {α β γ : Type} {P : α → Prop} {Q : β → Prop} {S : γ → Prop} {f : α → β → γ}
    (h : ∀ {a b}, P a → Q b → S (f a b)) :
    ∀ {as : List α} {bs : List β}, (∀ a ∈ as, P a) → (∀ b ∈ bs, Q b) → ∀ c ∈ List.zipWith f as bs, S c
  | a :: as, b :: bs, ha, hb, c, hc => by
    rcases List.mem_cons.mp hc with rfl | hc
    · exact h (ha a (List.mem_cons_self ..)) (hb b (List.mem_cons_self ..))
    · exact forall_mem_zipWith h (fun x hx => ha x (List.mem_cons_of_mem _ hx))
        (fun x hx => hb x (List.mem_cons_of_mem _ hx)) c hc
  | [], _, _, _, _, hc => by cases hc
  | _ :: _, [], _, _, _, hc => by cases hc

/-- `FNContraction::toC` on operands of the same type, whatever their size -/
theorem contractC_dbl : ∀ {as bs : List CE} {r : CE}, (∀ e ∈ as, D e) → (∀ e ∈ bs, D e) →
    contractC as bs = .ok r → D r
  | a :: as, b :: bs, _, ha, hb, hr => by
    cases hr
    exact (DL.chain_add ((ha a (List.mem_cons_self ..)).mul (hb b (List.mem_cons_self ..))).mono
      (forall_mem_zipWith DL.mul (fun x hx => ha x (List.mem_cons_of_mem _ hx))
        (fun x hx => hb x (List.mem_cons_of_mem _ hx)))).par
  | [], _, _, _, _, hr => by cases hr
  | _ :: _, [], _, _, _, hr => by cases hr

theorem row3C_dbl {a0 a1 a2 : CE} {b : V3 CE} (h0 : D a0) (h1 : D a1) (h2 : D a2)
    (hb : (Val.v b).All D) : D (row3C a0 a1 a2 b) :=
  (((h0.mul hb.1).add (h1.mul hb.2.1)).add (h2.mul hb.2.2)).par

theorem dotEntryC_dbl {a0 a1 a2 b0 b1 b2 : CE} (h0 : D a0) (h1 : D a1) (h2 : D a2)
    (k0 : D b0) (k1 : D b1) (k2 : D b2) : D (dotEntryC a0 a1 a2 b0 b1 b2) :=
  (((h0.mul k0).par.add (h1.mul k1).par).add (h2.mul k2).par).par.par

theorem emitBin_dbl {op : BinOp} {ca cb c : Val CE} (ha : ca.All D) (hb : cb.All D)
    (hc : emitBin op ca cb = .ok c) : c.All D := by
  cases op with
  | add => exact ha.zipM hb hc fun ha hb => (ha.add hb).par
  | sub => exact ha.zipM hb hc fun ha hb => (ha.sub hb).par
  | mul =>
    cases ca <;> cases cb
    case s.s | s.v | s.t => cases hc; exact hb.map fun h => (DL.mul ha h).par
    case v.s | t.s => cases hc; exact ha.map fun h => (DL.mul hb h).par
    case v.t | t.v => cases hc
    all_goals exact ha.zipM hb hc fun ha hb => (ha.mul hb).par
  | div =>
    cases cb
    case s => cases hc; exact ha.map fun h => (DL.div h hb).par
    all_goals exact ha.zipM hb hc fun ha hb => (ha.div hb).par
  | contract =>
    cases ca <;> cases cb <;> cases hc
    · exact contractC_dbl ha.toList hb.toList rfl
    · obtain ⟨a0, a1, a2, a3, a4, a5, a6, a7, a8⟩ := ha
      exact ⟨row3C_dbl a0 a1 a2 hb, row3C_dbl a3 a4 a5 hb, row3C_dbl a6 a7 a8 hb⟩
    · exact contractC_dbl ha.toList hb.toList rfl
  | dot =>
    cases ca <;> cases cb <;> cases hc
    obtain ⟨a0, a1, a2, a3, a4, a5, a6, a7, a8⟩ := ha
    obtain ⟨b0, b1, b2, b3, b4, b5, b6, b7, b8⟩ := hb
    exact ⟨dotEntryC_dbl a0 a1 a2 b0 b3 b6, dotEntryC_dbl a0 a1 a2 b1 b4 b7,
      dotEntryC_dbl a0 a1 a2 b2 b5 b8, dotEntryC_dbl a3 a4 a5 b0 b3 b6,
      dotEntryC_dbl a3 a4 a5 b1 b4 b7, dotEntryC_dbl a3 a4 a5 b2 b5 b8,
      dotEntryC_dbl a6 a7 a8 b0 b3 b6, dotEntryC_dbl a6 a7 a8 b1 b4 b7,
      dotEntryC_dbl a6 a7 a8 b2 b5 b8⟩
  | outer =>
    cases ca <;> cases cb <;> cases hc
    exact ⟨(ha.1.mul hb.1).par, (ha.1.mul hb.2.1).par, (ha.1.mul hb.2.2).par,
      (ha.2.1.mul hb.1).par, (ha.2.1.mul hb.2.1).par, (ha.2.1.mul hb.2.2).par,
      (ha.2.2.mul hb.1).par, (ha.2.2.mul hb.2.1).par, (ha.2.2.mul hb.2.2).par⟩
  | pow => cases hc

/-! ## The unary functions -/

theorem lit00_dbl : D (.lit ['0', '.', '0']) := ⟨⟨by decide +kernel, by decide, by decide⟩, by decide, by decide⟩
theorem lit10_dbl : D (.lit ['1', '.', '0']) := ⟨⟨by decide +kernel, by decide, by decide⟩, by decide, by decide⟩

theorem neg_dbl {a : CE} {L} (h : DL L a) (hl : 3 ≤ L := by decide) : D (.par (.neg a)) := by
  refine ⟨can_par ?_ (by rw [render_eq (render_neg a [])]; simp), h.dbl, h.nid⟩
  simp [CE.ok, h.can.ok, Nat.le_trans hl h.can.lvl, (goodHead_facts h.can.hd).2.2]

theorem gt0_dbl {c a b : CE} {Lc La Lb} (hc : DL Lc c) (ha : DL La a) (hb : DL Lb b)
    (hl : 1 ≤ Lc := by decide) : D (.par (.gt0 c a b)) := by
  refine ⟨can_par ?_ ?_, ?_, ?_⟩
  · simp [CE.ok, hc.can.ok, ha.can.ok, hb.can.ok, Nat.le_trans hl hc.can.lvl]
  · rw [render_eq (render_gt0 c a b [])]
    exact (goodHead_facts (goodHead_append hc.can.hd _)).2.1
  · show (a.abs.isInt && b.abs.isInt) = false
    rw [ha.dbl]; rfl
  · show (c.abs.noIntDiv && true && a.abs.noIntDiv && b.abs.noIntDiv) = true
    rw [hc.nid, ha.nid, hb.nid]; rfl

theorem call_dbl {f : String} {a : CE} {L} (hf : cnameOK f = true) (ha : DL L a) : D (.call f a) := by
  simp only [cnameOK, Bool.and_eq_true] at hf
  refine ⟨⟨?_, Nat.le_refl _, by rw [render_eq (render_call f a [])]; exact goodHead_append hf.2 _⟩,
    rfl, ha.nid⟩
  simp [CE.ok, hf.1.1, hf.1.2, ha.can.ok]

theorem pow_dbl {a b : CE} {La Lb} (ha : DL La a) (hb : DL Lb b) : D (.par (.pow a b)) := by
  refine ⟨can_par ?_ (by rw [render_eq (render_pow a b [])]; simp), rfl, ?_⟩
  · simp [CE.ok, ha.can.ok, hb.can.ok]
  · show (a.abs.noIntDiv && b.abs.noIntDiv) = true
    rw [ha.nid, hb.nid]; rfl

/-- `((double)rand()/(double)RAND_MAX)`: the casts make it a `double` division -/
theorem uran_dbl : D (.par (.bin '/' false (.castd false .rand0) (.castd false .randMax))) :=
  ⟨⟨by decide, by decide, by decide⟩, by decide, by decide⟩

theorem detC_dbl {a : M9 CE} (h : (Val.t a).All D) : D (detC a) := by
  obtain ⟨xx, xy, xz, yx, yy, yz, zx, zy, zz⟩ := h
  have minor {p q r s : CE} (hp : D p) (hq : D q) (hr : D r) (hs : D s) :
      D (.par (.bin '-' false (mulC p q) (mulC r s))) := ((hp.mul hq).sub (hr.mul hs)).par
  exact (((xz.mul (minor yx zy yy zx)).add (xy.mul (minor yz zx yx zz))).add
    (xx.mul (minor yy zz yz zy))).par

/-- `FNQ::toC`, whatever the number of components -/
theorem qC_dbl : ∀ {xs : List CE} {r : CE}, (∀ e ∈ xs, D e) → qC xs = .ok r → D r
  | x :: xs, _, h, hr => by
    cases hr
    have sq {e : CE} (he : D e) : D (.par (mulC (.par e) (.par e))) := (he.par.mul he.par).par
    exact (DL.chain_add (sq (h x (List.mem_cons_self ..))).mono
      (List.forall_mem_map.mpr fun e he => (sq (h e (List.mem_cons_of_mem _ he))).mono)).par
  | [], _, _, hr => by cases hr

theorem emitFn_dbl {f : Fn} {ca c : Val CE} (hf : f.wf = true) (ha : ca.All D)
    (hc : emitFn f ca = .ok c) : c.All D := by
  have z : D zeroC := lit00_dbl.par
  cases f
  case lib n cn => cases hc; exact ha.map fun h => call_dbl hf h
  case uran => cases hc; exact ha.map fun _ => uran_dbl
  case step => cases hc; exact ha.map fun h => gt0_dbl h.par lit10_dbl lit00_dbl
  case stpVal => cases hc; exact ha.map fun h => gt0_dbl h.par h.par lit00_dbl
  case Q =>
    obtain ⟨r, hr, hc⟩ := bind_ok hc
    cases hc
    exact qC_dbl ha.toList hr
  -- the other functions accept one shape only
  all_goals cases ca <;> cases hc
  case det => exact detC_dbl ha
  case diagMat => exact ⟨ha.1.par, z, z, z, ha.2.1.par, z, z, z, ha.2.2.par⟩
  case idVec => exact ⟨DL.par ha, DL.par ha, DL.par ha⟩
  case idMat => exact ⟨DL.par ha, z, z, z, DL.par ha, z, z, z, DL.par ha⟩
  case T =>
    obtain ⟨a0, a1, a2, a3, a4, a5, a6, a7, a8⟩ := ha
    exact ⟨a0.par, a3.par, a6.par, a1.par, a4.par, a7.par, a2.par, a5.par, a8.par⟩
  case trace =>
    obtain ⟨a0, _, _, _, a4, _, _, _, a8⟩ := ha
    exact ((a0.add a4).add a8).par
  case unitMat =>
    exact ⟨DL.par ha, DL.par ha, DL.par ha, DL.par ha, DL.par ha, DL.par ha, DL.par ha, DL.par ha,
      DL.par ha⟩
  case uVecX => exact ⟨DL.par ha, z, z⟩
  case uVecY => exact ⟨z, DL.par ha, z⟩
  case uVecZ => exact ⟨z, z, DL.par ha⟩
  case xyMat =>
    obtain ⟨a0, a1, _, a3, a4, _, _, _, _⟩ := ha
    exact ⟨a0.par, a1.par, z, a3.par, a4.par, z, z, z, z⟩
  case xCoord => exact ha.1.par
  case yCoord => exact ha.2.1.par
  case zCoord => exact ha.2.2.par

/-! ## Leaves -/

theorem spanDigits_eq (cs : List Char) : spanDigits cs = spanP Char.isDigit cs := by
  induction cs with
  | nil => rfl
  | cons c tl ih => rw [spanDigits, spanP, ih]

theorem decimalVal_intLit (n : Nat) :
    decimalVal (Nat.toDigits 10 n ++ ['.', '0']) = some (n : Rat) := by
  have hdig := isDigit_toDigits n
  obtain ⟨c, tl, hctl⟩ := List.exists_cons_of_ne_nil (Nat.toDigits_ne_nil (b := 10) (n := n))
  have hc : c.isDigit = true := hdig c (hctl ▸ List.mem_cons_self ..)
  have hsp : spanDigits (Nat.toDigits 10 n ++ ['.', '0']) = (Nat.toDigits 10 n, ['.', '0']) :=
    (spanDigits_eq _).trans (spanP_append hdig fun _ _ e => (List.cons.inj e).1 ▸ rfl)
  have hv : digitsVal (Nat.toDigits 10 n ++ ['0']) = 10 * n := by
    rw [digitsVal_append_single, digitsVal_toDigits]; rfl
  have hall : ∀ d ∈ Nat.toDigits 10 n, isNumChar d = true := fun d hd => by simp [isNumChar, hdig d hd]
  have h0 : spanDigits ['0'] = (['0'], []) := rfl
  -- what is left of the definition: all characters are numeric, the first is a digit, `10 * n / 10 = n`
  simp [decimalVal, decimalCore, decimalTail, hsp, hv, h0]
  refine ⟨⟨⟨hall, rfl, rfl⟩, ?_⟩, by grind⟩
  rw [hctl]; exact .inl hc

theorem numVal_ok {t : String} {r : Rat} (h : numVal t = .ok r) :
    decimalVal (t.toList.dropWhile isSpace) = some r := by
  unfold numVal classifyNumber at h
  dsimp only at h
  split at h
  next r' hr =>
    split at hr
    next q hq =>
      split at hr
      · cases hr
      · injection hr with hr; subst hr
        injection h with h; subst h
        exact hq
    next hq =>
      split at hr <;> cases hr
  · cases h
  · cases h


theorem intLit_facts (n : Nat) (tl : List Char) :
    (Nat.toDigits 10 n ++ tl).dropWhile isSpace = Nat.toDigits 10 n ++ tl ∧
    goodHead (Nat.toDigits 10 n ++ tl) = true := by
  cases hx : Nat.toDigits 10 n with
  | nil => exact absurd hx Nat.toDigits_ne_nil
  | cons c ds =>
    have hc : c.isDigit = true := isDigit_toDigits n c (by rw [hx]; exact List.mem_cons_self ..)
    obtain ⟨hs, h1, h2, _⟩ := primaryStart_facts (.inl (Bool.or_eq_true_iff.mpr (.inl hc)))
    refine ⟨by simp [hs], ?_⟩
    have hop : opChar c = false := by
      simp only [opChar, Bool.or_eq_false_iff, decide_eq_false_iff_not]
      refine ⟨⟨⟨?_, h1⟩, h2⟩, ?_⟩ <;> (intro h; subst h; cases hc)
    have hd : c ≠ 'd' := by intro h; subst h; cases hc
    simp [goodHead, hop, hd, hs]

theorem constC_dbl {t : String} {r : Rat} (h : numVal t = .ok r) : D (constC t r) := by
  have hd := numVal_ok h
  unfold constC
  split
  next hc =>
    obtain ⟨hdw, hgh⟩ := intLit_facts r.num.toNat ['.', '0']
    refine DL.par (L := 4) ⟨⟨?_, Nat.le_refl _, hgh⟩, ?_, rfl⟩
    · show (decimalVal (List.dropWhile _ _)).isSome = true
      rw [hdw, decimalVal_intLit]; rfl
    · show List.all (List.dropWhile _ _) _ = false
      rw [hdw, List.all_append]
      simp [show ('.' : Char).isDigit = false by decide]
  next =>
    have hok : (CE.lit t.toList).ok = true := by
      show (decimalVal (t.toList.dropWhile isSpace)).isSome = true
      rw [hd]; rfl
    -- a literal does not start with `d`
    have hnd : t.toList.head? ≠ some 'd' := by
      cases ht : t.toList with
      | nil => simp
      | cons c tl =>
        rw [ht] at hd
        intro hc
        obtain rfl : c = 'd' := by simpa using hc
        obtain ⟨_, c', tl', hctl, hc'⟩ := decimalVal_some hd
        rw [List.dropWhile_cons_of_neg (by decide)] at hctl
        obtain rfl : 'd' = c' := (List.cons.inj hctl).1
        cases hc'
    have p2 : (CE.castd true (.par (.lit t.toList))).ok = true := by
      simp [CE.ok, hd, show (CE.lit t.toList).render = t.toList from rfl, hnd, CE.lvl]
    exact ⟨can_par p2 (by rw [render_eq (render_castd true _ [])]; simp), rfl, rfl⟩

theorem pi_dbl : D (.par (.castd true (.par .mpi))) :=
  ⟨⟨by decide, by decide, by decide⟩, rfl, rfl⟩

theorem symC_dbl {env : Env} {n : String} {c : Val CE} (hc : symC env n = .ok c) : c.All D := by
  have ld (slot i : Nat) : D (loadC slot i) := ⟨can_par rfl (by rw [render_eq (render_load _ [])]; simp), rfl, rfl⟩
  unfold symC at hc
  cases hf : env.find n with
  | none => rw [hf] at hc; cases hc
  | some d =>
    simp only [hf] at hc
    cases hty : d.ty <;> simp only [hty] at hc <;> cases hc
    · exact ld _ _
    · exact ⟨ld _ _, ld _ _, ld _ _⟩
    · exact ⟨ld _ _, ld _ _, ld _ _, ld _ _, ld _ _, ld _ _, ld _ _, ld _ _, ld _ _⟩

/-! ## The power operator -/

/-- What `FNPower::toC` returns: the call of `pow`, or, for a constant integral exponent `x` within
`maxExp`, the unrolled product, `1.0`, or the reciprocal of the unrolled product. -/
theorem powC_ok {a b r : CE} {vb : Except Err (Val Rat)} (h : powC a b vb = .ok r) :
    r = .par (.pow a b) ∨ ∃ x, vb = .ok (.s x) ∧ x.den = 1 ∧ ¬ x.num.natAbs > maxExp ∧
      ((0 < x.num ∧ r = .par (powChainC a x.num.toNat)) ∨
       (x.num = 0 ∧ r = .par (.lit ['1', '.', '0'])) ∨
       (x.num < 0 ∧
        r = .par (.bin '/' false (.lit ['1', '.', '0']) (.par (powChainC a (-x.num).toNat))))) := by
  unfold powC at h
  split at h
  · cases h
  · cases h; exact .inl rfl
  next x =>
    by_cases hr : x.den = 1 ∧ -2147483648 < x.num ∧ x.num < 2147483648
    · rw [if_pos hr] at h
      by_cases hm : x.num.natAbs > maxExp
      · rw [if_pos hm] at h; cases h
      · rw [if_neg hm] at h
        refine .inr ⟨x, rfl, hr.1, hm, ?_⟩
        by_cases hp : 0 < x.num
        · rw [if_pos hp] at h; cases h; exact .inl ⟨hp, rfl⟩
        · rw [if_neg hp] at h
          by_cases h0 : x.num = 0
          · rw [if_pos h0] at h; cases h; exact .inr (.inl ⟨h0, rfl⟩)
          · rw [if_neg h0] at h; cases h; exact .inr (.inr ⟨by omega, rfl⟩)
    · rw [if_neg hr] at h
      by_cases hx : x = -2147483648
      · rw [if_pos hx] at h; cases h
      · rw [if_neg hx] at h; cases h; exact .inl rfl
  · cases h
theorem powC_dbl {a b r : CE} {vb : Except Err (Val Rat)} (ha : D a) (hb : D b)
    (h : powC a b vb = .ok r) : D r := by
  have pc (n : Nat) : DL 2 (powChainC a n) :=
    DL.chain_mul ha.mono fun x hx => by rw [List.eq_of_mem_replicate hx]; exact ha.mono
  rcases powC_ok h with rfl | ⟨x, -, -, -, ⟨-, rfl⟩ | ⟨-, rfl⟩ | ⟨-, rfl⟩⟩
  · exact pow_dbl ha hb
  · exact (pc _).par
  · exact lit10_dbl.par
  · exact (lit10_dbl.div (pc _).par).par

/-! ## The whole tree -/

theorem toCE_bin_nonpow {env : Env} {op : BinOp} (hop : op ≠ .pow) (a b : Tree) :
    toCE env (.bin op a b) = (do
      let ca ← toCE env a
      let cb ← toCE env b
      emitBin op ca cb) := by
  cases op <;> first | rfl | exact absurd rfl hop

theorem toCE_bin_pow {env : Env} (a b : Tree) :
    toCE env (.bin .pow a b) = (do
      let ca ← toCE env a
      let cb ← toCE env b
      match ca, cb with
      | .s x, .s y => do let r ← powC x y (eval env env.lookupNull b); pure (.s r)
      | _, _ => .error .type) := by rfl

/-- No integer-typed term is emitted. -/
theorem toCE_dbl (env : Env) (t : Tree) (hwf : t.wf = true) (c : Val CE) (hc : toCE env t = .ok c) :
    c.All D := by
  induction t generalizing c with
  | sym n => exact symC_dbl hc
  | num s =>
    obtain ⟨r, hr, hc⟩ := bind_ok hc
    cases hc
    exact constC_dbl hr
  | pi => cases hc; exact pi_dbl
  | neg a ih =>
    obtain ⟨ca, hca, hc⟩ := bind_ok hc
    cases hc
    exact (ih hwf ca hca).map fun h => neg_dbl h
  | bin op a b iha ihb =>
    simp only [Tree.wf, Bool.and_eq_true] at hwf
    by_cases hop : op = .pow
    · subst hop
      rw [toCE_bin_pow] at hc
      obtain ⟨ca, hca, hc⟩ := bind_ok hc
      obtain ⟨cb, hcb, hc⟩ := bind_ok hc
      have ga := iha hwf.1 ca hca
      have gb := ihb hwf.2 cb hcb
      cases ca <;> cases cb <;> try cases hc
      obtain ⟨r, hr, hc⟩ := bind_ok hc
      cases hc
      exact powC_dbl ga gb hr
    · rw [toCE_bin_nonpow hop] at hc
      obtain ⟨ca, hca, hc⟩ := bind_ok hc
      obtain ⟨cb, hcb, hc⟩ := bind_ok hc
      exact emitBin_dbl (iha hwf.1 ca hca) (ihb hwf.2 cb hcb) hc
  | fn f a ih =>
    simp only [Tree.wf, Bool.and_eq_true] at hwf
    obtain ⟨ca, hca, hc⟩ := bind_ok hc
    exact emitFn_dbl hwf.1 (ih hwf.2 ca hca) hc

/-! ## `noIntDiv` is what keeps `evalCX` away from the integer-division outcomes -/

/-- the error is one of the two outcomes of an `int / int` division -/
def Err.isIntDiv (e : Err) : Prop := e = .intTrunc ∨ e = .intDiv0

/-- the oracles of the environment do not produce integer-division errors themselves -/
structure OraclesClean (env : Env) : Prop where
  lib : ∀ f x e, env.lib f x = .error e → ¬ e.isIntDiv
  powf : ∀ x y e, env.powf x y = .error e → ¬ e.isIntDiv
  piv : ∀ e, env.piv = .error e → ¬ e.isIntDiv

theorem libFn_clean {env : Env} (h : OraclesClean env) {f x e} (he : libFn env f x = .error e) :
    ¬ e.isIntDiv := by
  unfold libFn at he
  split at he
  · cases he
  · split at he
    · cases he
    · exact h.lib _ _ _ he

theorem powRat_clean {env : Env} (h : OraclesClean env) {x y e} (he : powRat env x y = .error e) :
    ¬ e.isIntDiv := by
  unfold powRat at he
  by_cases h1 : y.den = 1
  · rw [if_pos h1] at he
    by_cases h2 : y.num.natAbs > maxExp
    · rw [if_pos h2] at he; cases he; nofun
    · rw [if_neg h2] at he
      by_cases h3 : 0 ≤ y.num
      · rw [if_pos h3] at he; cases he
      · rw [if_neg h3] at he
        by_cases h4 : x = 0
        · rw [if_pos h4] at he; cases he; nofun
        · rw [if_neg h4] at he; cases he
  · rw [if_neg h1] at he; exact h.powf _ _ _ he
theorem evalCX_noIntDiv {env : Env} (henv : OraclesClean env) (x : CX) (hn : x.noIntDiv = true)
    (e : Err) (he : evalCX env x = .error e) : ¬ e.isIntDiv := by
  induction x generalizing e with
  | num i r => cases he
  | mpi => exact henv.piv e he
  | rand0 => cases he; nofun
  | randMax => cases he
  | load off =>
    simp only [evalCX] at he
    split at he
    · cases he
    · cases he; nofun
  | neg a ih =>
    simp only [evalCX] at he
    rcases bind_error he with h | ⟨_, _, h⟩
    · exact ih hn e h
    · cases h
  | castd a ih => exact ih hn e he
  | bin op a b iha ihb =>
    simp only [CX.noIntDiv, Bool.and_eq_true, Bool.not_eq_true', Bool.and_eq_false_iff] at hn
    obtain ⟨⟨na, nb⟩, hdiv⟩ := hn
    rw [evalCX] at he
    rcases bind_error he with h | ⟨x, _, he⟩
    · exact iha na e h
    rcases bind_error he with h | ⟨y, _, he⟩
    · exact ihb nb e h
    cases op with
    | add => cases he
    | sub => cases he
    | mul => cases he
    | div =>
      have hii : (a.isInt && b.isInt) = false := by
        rcases hdiv with (h | h) | h
        · simp at h
        · simp [h]
        · simp [h]
      simp only [hii, Bool.false_eq_true, if_false, Bool.false_and] at he
      split at he
      · cases he; nofun
      · cases he
  | ite c z a b ihc ihz iha ihb =>
    simp only [CX.noIntDiv, Bool.and_eq_true] at hn
    obtain ⟨⟨⟨nc, nz⟩, na⟩, nb⟩ := hn
    simp only [evalCX] at he
    rcases bind_error he with h | ⟨x, _, he⟩
    · exact ihc nc e h
    rcases bind_error he with h | ⟨y, _, he⟩
    · exact ihz nz e h
    split at he
    · exact iha na e he
    · exact ihb nb e he
  | call1 f a ih =>
    simp only [evalCX] at he
    rcases bind_error he with h | ⟨x, _, he⟩
    · exact ih hn e h
    · exact libFn_clean henv he
  | call2 f a b iha ihb =>
    simp only [CX.noIntDiv, Bool.and_eq_true] at hn
    simp only [evalCX] at he
    rcases bind_error he with h | ⟨x, _, he⟩
    · exact iha hn.1 e h
    rcases bind_error he with h | ⟨y, _, he⟩
    · exact ihb hn.2 e h
    split at he
    · exact powRat_clean henv he
    · cases he; nofun

end Sympler.Expr
