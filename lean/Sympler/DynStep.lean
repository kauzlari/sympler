import Sympler.DynBasics

/-!
One time step of the `Dyn` model (core Lean only): the pair kernel, the loops of `+=`, what each phase leaves alone, the
force a particle ends up with after `step` and `init`, the integrators in closed form, cutoffs, pair sums.
-/
namespace Sympler.Dyn

/-! ### the pair kernel -/

section
variable (cfg : Config)

def PairMod.reads (m : PairMod) : List String := m.expr.reads ++ m.fi.reads ++ m.fj.reads
def PairMod.usesVel (m : PairMod) : Bool := m.expr.usesVel || m.fi.usesVel || m.fj.usesVel

def pairActive (cfg : Config) (m : PairMod) (st : State) (a b : Nat) : Bool :=
  inList cfg st m.c1 m.c2 a b && inCut cfg m (st.ps a) (st.ps b)

/-- what the kernel call of module `m` for the list entry `(a, b)` adds to entry `key` of particle `i` -/
def pairDelta (cfg : Config) (k : Bool) (m : PairMod) (st : State) (a b i : Nat) (key : Key) : Vec3 :=
  if pairActive cfg m st a b then
    (if i = a ∧ (st.ps a).frozen = false ∧ key = m.target.key k
      then m.first (mkEnv cfg.box (st.ps a) (st.ps b)) else 0)
    + (if i = b ∧ (st.ps b).frozen = false ∧ key = m.target.key k
      then m.second (mkEnv cfg.box (st.ps a) (st.ps b)) else 0)
  else 0

theorem pairDelta_off (k : Bool) (m : PairMod) (st : State) (a b i : Nat) (key : Key)
    (h : key ≠ m.target.key k) : pairDelta cfg k m st a b i key = 0 := by
  have hn : ∀ x : Nat, ¬ (i = x ∧ (st.ps x).frozen = false ∧ key = m.target.key k) := fun _ h' => h h'.2.2
  unfold pairDelta
  rw [if_neg (hn a), if_neg (hn b), Vec3.add_zero, ite_self]

theorem pairOp_outside (k : Bool) (m : PairMod) (a b : Nat) (st : State)
    (hout : inCut cfg m (st.ps a) (st.ps b) = false) :
    pairOp cfg k m a b st = st ∧ ∀ i key, pairDelta cfg k m st a b i key = 0 :=
  ⟨by unfold pairOp; simp [hout], fun i key => by unfold pairDelta pairActive; simp [hout]⟩

theorem pairDelta_frozen (k : Bool) (m : PairMod) (st : State) (a b i : Nat) (key : Key)
    (h : (st.ps i).frozen = true) : pairDelta cfg k m st a b i key = 0 := by
  have ha : ¬ (i = a ∧ (st.ps a).frozen = false ∧ key = m.target.key k) := fun ⟨e, hf, _⟩ => by simp [← e, h] at hf
  have hb : ¬ (i = b ∧ (st.ps b).frozen = false ∧ key = m.target.key k) := fun ⟨e, hf, _⟩ => by simp [← e, h] at hf
  unfold pairDelta
  rw [if_neg ha, if_neg hb, Vec3.add_zero, ite_self]

theorem addTag_addTag (p : Particle) (k : Key) (x y : Vec3) : (p.addTag k x).addTag k y = p.addTag k (x + y) :=
  Particle.ext' rfl rfl rfl rfl rfl (funext fun k' => by
    by_cases h : k' = k <;> simp [h, Vec3.add_assoc])

theorem ite_modify_ps (c : Bool) (st : State) (j : Nat) (key : Key) (x : Vec3) (i : Nat) :
    (if c = true then st.modify j (fun p => p.addTag key x) else st).ps i
      = (st.ps i).addTag key (if i = j ∧ c = true then x else 0) := by
  by_cases hc : c = true <;> by_cases hi : i = j <;> simp [hc, hi, addTag_zero]

theorem pairOp_ps (k : Bool) (m : PairMod) (a b : Nat) (st : State) (i : Nat) :
    (pairOp cfg k m a b st).ps i
      = (st.ps i).addTag (m.target.key k) (pairDelta cfg k m st a b i (m.target.key k)) := by
  unfold pairOp pairDelta pairActive
  by_cases h : (inList cfg st m.c1 m.c2 a b && inCut cfg m (st.ps a) (st.ps b)) = true
  · rw [if_pos h, if_pos h]
    dsimp only
    rw [ite_modify_ps, ite_modify_ps, addTag_addTag]
    simp only [Bool.not_eq_eq_eq_not, Bool.not_true, and_true]
  · rw [if_neg h, if_neg h, addTag_zero]

theorem pairOp_rest (k : Bool) (m : PairMod) (a b : Nat) (st : State) :
    (pairOp cfg k m a b st).n = st.n ∧ (pairOp cfg k m a b st).forceIdx = st.forceIdx ∧
    (pairOp cfg k m a b st).pers = st.pers := by
  simp only [pairOp, apply_ite State.n, apply_ite State.forceIdx, apply_ite State.pers, modify_n, modify_forceIdx,
    modify_pers, ite_self, and_self]

theorem pairOp_tag (k : Bool) (m : PairMod) (a b : Nat) (st : State) (i : Nat) (key : Key) :
    ((pairOp cfg k m a b st).ps i).tag key = (st.ps i).tag key + pairDelta cfg k m st a b i key := by
  rw [pairOp_ps, addTag_tag]; split
  · rename_i h; rw [h]
  · rename_i h; rw [pairDelta_off _ _ _ _ _ _ _ _ h, Vec3.add_zero]

theorem pairOp_agree (W : Key → Prop) (cfg : Config) (k : Bool) (m : PairMod) (a b : Nat) (st : State)
    (hW : W (m.target.key k)) : AgreeOff W st (pairOp cfg k m a b st) :=
  ⟨(pairOp_rest ..).1, (pairOp_rest ..).2.1, (pairOp_rest ..).2.2,
   fun i => by rw [pairOp_ps]; exact .refl _,
   fun i key hk => by rw [pairOp_tag, pairDelta_off cfg k m st a b i key (fun h => hk (h ▸ hW)), Vec3.add_zero]⟩

theorem pairOp_pres (k : Bool) (m : PairMod) (a b : Nat) (st : State) :
    Pres st (pairOp cfg k m a b st) :=
  ⟨(pairOp_rest ..).1, fun i => by rw [pairOp_ps]; exact ⟨rfl, rfl, rfl⟩,
   fun i hfz => by rw [pairOp_ps, pairDelta_frozen _ _ _ _ _ _ _ _ hfz, addTag_zero]⟩

theorem pairKernel_congr {V : Prop} {K : Key → Prop} (m : PairMod)
    (hV : m.usesVel = true → V) (hR : ∀ n ∈ m.reads, K (.sym n)) {st st' : State} {a b : Nat}
    (ha : SameView V K (st.ps a) (st'.ps a)) (hb : SameView V K (st.ps b) (st'.ps b)) :
    pairActive cfg m st a b = pairActive cfg m st' a b ∧
    m.first (mkEnv cfg.box (st.ps a) (st.ps b)) = m.first (mkEnv cfg.box (st'.ps a) (st'.ps b)) ∧
    m.second (mkEnv cfg.box (st.ps a) (st.ps b)) = m.second (mkEnv cfg.box (st'.ps a) (st'.ps b)) := by
  -- each of the three expressions of `m` reads what `m` reads
  have hev : ∀ e : Expr, (e.usesVel = true → m.usesVel = true) → (∀ n ∈ e.reads, n ∈ m.reads) →
      e.eval (mkEnv cfg.box (st.ps a) (st.ps b)) = e.eval (mkEnv cfg.box (st'.ps a) (st'.ps b)) :=
    fun e h1 h2 => SameView.eval_mkEnv cfg.box e (fun h => hV (h1 h)) (fun n hn => hR n (h2 n hn)) ha hb
  have h1 := hev m.expr (by simp +contextual [PairMod.usesVel]) (by simp +contextual [PairMod.reads])
  have h2 := hev m.fi (by simp +contextual [PairMod.usesVel]) (by simp +contextual [PairMod.reads])
  have h3 := hev m.fj (by simp +contextual [PairMod.usesVel]) (by simp +contextual [PairMod.reads])
  refine ⟨?_, by rw [PairMod.first, h1, h2]; rfl, by rw [PairMod.second, h1, h3]; rfl⟩
  simp only [pairActive, inList, inCut]
  rw [dist_congr cfg.box ha.r hb.r, ha.colour, hb.colour, ha.frozen, hb.frozen]

theorem pairDelta_congr {V : Prop} {K : Key → Prop} (k : Bool) (m : PairMod)
    (hV : m.usesVel = true → V) (hR : ∀ n ∈ m.reads, K (.sym n)) {st st' : State} {a b : Nat}
    (ha : SameView V K (st.ps a) (st'.ps a)) (hb : SameView V K (st.ps b) (st'.ps b)) (i : Nat) (key : Key) :
    pairDelta cfg k m st a b i key = pairDelta cfg k m st' a b i key := by
  obtain ⟨h1, h2, h3⟩ := pairKernel_congr cfg m hV hR ha hb
  rw [pairDelta, pairDelta, h1, h2, h3, ha.frozen, hb.frozen]

/-! ### the scatter lemma

A loop of `+=` whose increments are evaluated on what the loop does not write computes, entry by entry, the old value
plus the sum of all increments EVALUATED ON THE STATE BEFORE THE LOOP (`I` = "still looks like the state before the loop"). -/

theorem foldl_add_spec {σ α ι} (I : σ → Prop) (val : σ → ι → Vec3) (op : σ → α → σ) (δ : α → ι → Vec3)
    (xs : List α) (h : ∀ x ∈ xs, ∀ s, I s → I (op s x) ∧ ∀ j, val (op s x) j = val s j + δ x j) :
    ∀ s, I s → I (xs.foldl op s) ∧ ∀ j, val (xs.foldl op s) j = val s j + vsum (xs.map (δ · j)) := by
  induction xs with
  | nil => exact fun s hs => ⟨hs, fun j => (Vec3.add_zero _).symm⟩
  | cons x xs ih =>
    intro s hs
    obtain ⟨h1, h2⟩ := h x (by simp) s hs
    obtain ⟨h3, h4⟩ := ih (fun y hy => h y (by simp [hy])) _ h1
    exact ⟨h3, fun j => by rw [List.foldl_cons, h4, h2, List.map_cons, vsum_cons, Vec3.add_assoc]⟩

def pairContrib (cfg : Config) (k : Bool) (m : PairMod) (st : State) (i : Nat) (key : Key) : Vec3 :=
  vsum ((List.range st.n).map (fun a => vsum ((List.range st.n).map (fun b => pairDelta cfg k m st a b i key))))

theorem pairPhase_spec (W : Key → Prop) (cfg : Config) (k : Bool) (ms : List PairMod) (st : State)
    (hW : ∀ m ∈ ms, W (m.target.key k)) (hR : ∀ m ∈ ms, ∀ n ∈ m.reads, ¬ W (.sym n)) :
    AgreeOff W st (pairPhase cfg k ms st) ∧
    ∀ i key, ((pairPhase cfg k ms st).ps i).tag key
      = (st.ps i).tag key + vsum (ms.map (fun m => pairContrib cfg k m st i key)) := by
  -- the modules of one pair, started in a state `s` that still agrees with `st` off `W`
  have inner : ∀ ab : Nat × Nat, ∀ s, AgreeOff W st s →
      AgreeOff W st (ms.foldl (fun s m => pairOp cfg k m ab.1 ab.2 s) s) ∧
      ∀ j : Nat × Key, ((ms.foldl (fun s m => pairOp cfg k m ab.1 ab.2 s) s).ps j.1).tag j.2
        = (s.ps j.1).tag j.2 + vsum (ms.map (fun m => pairDelta cfg k m st ab.1 ab.2 j.1 j.2)) :=
    fun ab => foldl_add_spec (AgreeOff W st) (fun s j => (s.ps j.1).tag j.2) _ _ ms (fun m hm s hs =>
      ⟨hs.trans (pairOp_agree W cfg k m _ _ s (hW m hm)), fun (j : Nat × Key) => by
        rw [pairOp_tag, pairDelta_congr cfg k m (fun _ => trivial) (hR m hm)
          ((hs.body _).view _ (hs.tag _)) ((hs.body _).view _ (hs.tag _))]⟩)
  obtain ⟨hA, hT⟩ := foldl_add_spec (AgreeOff W st) (fun s (j : Nat × Key) => (s.ps j.1).tag j.2) _ _
    (allPairs st.n) (fun ab _ => inner ab) st (.refl W st)
  refine ⟨hA, fun i key => (hT (i, key)).trans ?_⟩
  -- Σ_a Σ_b Σ_m = Σ_m Σ_a Σ_b
  rw [allPairs, vsum_flatMap]
  simp only [List.map_map, Function.comp_def, pairContrib]
  rw [vsum_map_congr _ _ _ (fun a _ => vsum_comm (List.range st.n) ms _), vsum_comm]

def partDelta (k : Bool) (m : PartMod) (p : Particle) (key : Key) : Vec3 :=
  if p.colour = m.colour ∧ key = m.target.key k then m.expr.eval (envP p) else 0

theorem partPhase_forces_spec (k : Bool) (ms : List PartMod)
    (h : ∀ m ∈ ms, (∃ d, m.target = .force d) ∧ m.assign = false) (st : State) (i : Nat) (key : Key) :
    ((partPhase k ms st).ps i).tag key
      = (st.ps i).tag key + (if (st.ps i).frozen then 0 else vsum (ms.map (fun m => partDelta k m (st.ps i) key))) := by
  rw [partPhase, mapFree_ps]; split
  · exact (Vec3.add_zero _).symm
  · refine (foldl_add_spec (fun q : Particle => q.sameBody (st.ps i) ∧ ∀ n, q.tag (.sym n) = (st.ps i).tag (.sym n))
      (fun q key => q.tag key) (fun q m => partOp k m q) (fun m key => partDelta k m (st.ps i) key) ms (fun m hm q hq => ?_)
      _ ⟨.refl _, fun _ => rfl⟩).2 key
    obtain ⟨⟨d, hd⟩, ha⟩ := h m hm
    have hev : m.expr.eval (envP q) = m.expr.eval (envP (st.ps i)) :=
      (hq.1.view isSymKey (fun _ ⟨n, e⟩ => e ▸ hq.2 n)).eval_envP _ (fun _ => trivial) (fun n _ => isSymKey_sym n)
    simp only [partOp, partDelta, ha, hd, hev, hq.1.colour]
    by_cases hc : (st.ps i).colour = m.colour
    · simp only [hc, if_true, Bool.false_eq_true, if_false, true_and]
      exact ⟨⟨hq.1, fun n => by simp [Target.key, hq.2 n]⟩, fun key => by
        simp only [addTag_tag]; split
        · rename_i hk; rw [hk]
        · exact (Vec3.add_zero _).symm⟩
    · simp only [hc, if_false, false_and]
      exact ⟨hq, fun key => (Vec3.add_zero _).symm⟩

/-! ### every phase keeps count, identities and the frozen particles (`Pres`) -/

theorem pairPhase_pres (k : Bool) (ms : List PairMod) (st : State) :
    Pres st (pairPhase cfg k ms st) :=
  Pres.foldl _ _ (fun s ab _ => Pres.foldl _ _ (fun s m _ => pairOp_pres cfg k m ab.1 ab.2 s) s) st

theorem partFold_frame (W : Key → Prop) (k : Bool) (ms : List PartMod) (h : ∀ m ∈ ms, W (m.target.key k)) (p : Particle) :
    (ms.foldl (fun p m => partOp k m p) p).sameBody p ∧
    ∀ key, ¬ W key → (ms.foldl (fun p m => partOp k m p) p).tag key = p.tag key :=
  foldl_rel (fun p q : Particle => q.sameBody p ∧ ∀ key, ¬ W key → q.tag key = p.tag key)
    (fun _ => ⟨.refl _, fun _ _ => rfl⟩)
    (fun _ _ _ h1 h2 => ⟨h2.1.trans h1.1, fun key hk => (h2.2 key hk).trans (h1.2 key hk)⟩) _ ms
    (fun p m hm => by
      have hne : ∀ key, ¬ W key → key ≠ m.target.key k := fun key hk he => hk (he ▸ h m hm)
      unfold partOp
      by_cases hc : p.colour = m.colour
      · rw [if_pos hc]
        cases m.assign <;> exact ⟨.refl _, fun key hk => by simp [hne key hk]⟩
      · rw [if_neg hc]; exact ⟨.refl _, fun _ _ => rfl⟩) p

theorem partPhase_pres (k : Bool) (ms : List PartMod) (st : State) : Pres st (partPhase k ms st) :=
  Pres.mapFree st _ (fun p => (partFold_frame (fun _ => True) k ms (fun _ _ => trivial) p).1.sameId)

theorem runStage_pres (s : Nat) (st : State) : Pres st (runStage cfg s st) :=
  (partPhase_pres _ _ st).trans (pairPhase_pres cfg _ _ _)

theorem runSymbols_pres (st : State) : Pres st (runSymbols cfg st) :=
  Pres.foldl _ _ (fun s a _ => runStage_pres cfg a s) st

theorem clearForce_pres (k : Bool) (st : State) : Pres st (clearForce k st) :=
  Pres.mapFree st _ (fun _ => ⟨rfl, rfl, rfl⟩)

theorem clearParticleData_pres (st : State) : Pres st (clearParticleData st) :=
  Pres.mapFree st _ (fun _ => ⟨rfl, rfl, rfl⟩)

theorem forces_pres (k : Bool) (st : State) : Pres st (forces cfg k st) :=
  (pairPhase_pres cfg k _ st).trans (partPhase_pres k _ _)

theorem unprotect_keeps (k : Bool) (st : State) (ig : Integrator) :
    (unprotect k st ig).ps = st.ps ∧ (unprotect k st ig).n = st.n ∧ (unprotect k st ig).forceIdx = st.forceIdx := by
  cases ig with
  | vv c l m => exact ⟨rfl, rfl, rfl⟩
  | euler c name =>
    simp only [unprotect, apply_ite State.ps, apply_ite State.n, apply_ite State.forceIdx, ite_self, and_self]

theorem unprotect_fold_keeps (k : Bool) (igs : List Integrator) (st : State) :
    (igs.foldl (unprotect k) st).ps = st.ps ∧ (igs.foldl (unprotect k) st).n = st.n ∧
    (igs.foldl (unprotect k) st).forceIdx = st.forceIdx :=
  foldl_rel (fun s s' : State => s'.ps = s.ps ∧ s'.n = s.n ∧ s'.forceIdx = s.forceIdx) (fun _ => ⟨rfl, rfl, rfl⟩)
    (fun _ _ _ h1 h2 => ⟨h2.1.trans h1.1, h2.2.1.trans h1.2.1, h2.2.2.trans h1.2.2⟩) _ igs
    (fun s ig _ => unprotect_keeps k s ig) st

theorem onColour_cases (P : Particle → Prop) (c : Nat) (f : Particle → Particle) (p : Particle)
    (h1 : P (f p)) (h0 : P p) : P (onColour c f p) := by
  unfold onColour; split
  · exact h1
  · exact h0

theorem onColour_ident (c : Nat) (f : Particle → Particle) (p : Particle)
    (hf : (f p).sameId p) : (onColour c f p).sameId p :=
  onColour_cases (fun q => q.sameId p) c f p hf (.refl p)

theorem aboutToStart_pres (st : State) (ig : Integrator) : Pres st (aboutToStart st ig) := by
  cases ig <;> exact Pres.mapFree st _ (fun p => onColour_ident _ _ p ⟨rfl, rfl, rfl⟩)

theorem preForce_pres (k : Bool) (st : State) : Pres st (preForce cfg k st) :=
  have h := unprotect_fold_keeps k cfg.integrators (clearForce k st)
  (((clearForce_pres k st).trans (Pres.ofPs _ _ h.1 h.2.1)).trans (clearParticleData_pres _)).trans
    (runSymbols_pres cfg _)

/-! ### the integrator loops, seen from one particle -/

def integ1P (cfg : Config) (idx : Bool) (ig : Integrator) (p : Particle) : Particle :=
  match ig with
  | .vv c l m => onColour c (vvStep1 cfg.box cfg.dt l m idx) p
  | .euler c name => onColour c (eulerStep1 cfg.dt name idx) p

def integ2P (cfg : Config) (idx : Bool) (ig : Integrator) (p : Particle) : Particle :=
  match ig with
  | .vv c l m => onColour c (vvStep2 cfg.dt l m idx) p
  | .euler _ _ => p

theorem mapFree_id (st : State) : st.mapFree (fun p => p) = st :=
  State.ext' rfl (funext fun i => by rw [mapFree_ps]; split <;> rfl) rfl rfl

theorem foldl_mapFree {α} (F : Bool → α → Particle → Particle) (hF : ∀ k a p, (F k a p).frozen = p.frozen)
    (f : State → α → State) (hf : ∀ s a, f s a = s.mapFree (F s.forceIdx a)) (l : List α) (st : State) :
    l.foldl f st = st.mapFree (fun p => l.foldl (fun p a => F st.forceIdx a p) p) := by
  induction l generalizing st with
  | nil => exact (mapFree_id st).symm
  | cons a l ih => rw [List.foldl_cons, ih, hf, mapFree_mapFree _ _ _ (hF _ a)]; rfl

theorem integ1P_ident (idx : Bool) (ig : Integrator) (p : Particle) : (integ1P cfg idx ig p).sameId p := by
  cases ig <;> exact onColour_ident _ _ p ⟨rfl, rfl, rfl⟩

/-- equal up to the velocity -/
def PEqV (p q : Particle) : Prop :=
  p.colour = q.colour ∧ p.slot = q.slot ∧ p.frozen = q.frozen ∧ p.r = q.r ∧ p.tag = q.tag

theorem PEqV.refl (p : Particle) : PEqV p p := ⟨rfl, rfl, rfl, rfl, rfl⟩

theorem PEqV.trans {p q s : Particle} (h1 : PEqV p q) (h2 : PEqV q s) : PEqV p s :=
  ⟨h1.1.trans h2.1, h1.2.1.trans h2.2.1, h1.2.2.1.trans h2.2.2.1, h1.2.2.2.1.trans h2.2.2.2.1,
    h1.2.2.2.2.trans h2.2.2.2.2⟩

theorem vvStep2_peqV (dt l m : Rat) (idx : Bool) (p : Particle) : PEqV (vvStep2 dt l m idx p) p := by
  unfold vvStep2; dsimp only; split <;> exact .refl _

theorem integ2P_peqV (idx : Bool) (ig : Integrator) (p : Particle) : PEqV (integ2P cfg idx ig p) p := by
  cases ig with
  | vv c l m =>
    simp only [integ2P, onColour]; split
    · exact vvStep2_peqV ..
    · exact .refl _
  | euler c name => exact .refl _

theorem integ2P_fold_peqV (idx : Bool) (igs : List Integrator) (p : Particle) :
    PEqV (igs.foldl (fun p ig => integ2P cfg idx ig p) p) p :=
  foldl_rel (fun p q => PEqV q p) .refl (fun _ _ _ h1 h2 => h2.trans h1) _ igs (fun p ig _ => integ2P_peqV cfg idx ig p) p

theorem integ1_fold (igs : List Integrator) (st : State) :
    igs.foldl (integ1 cfg) st = st.mapFree (fun p => igs.foldl (fun p ig => integ1P cfg st.forceIdx ig p) p) :=
  foldl_mapFree (integ1P cfg) (fun k ig p => (integ1P_ident cfg k ig p).2.2) (integ1 cfg)
    (fun s ig => by cases ig <;> rfl) igs st

theorem integ2_fold (igs : List Integrator) (st : State) :
    igs.foldl (integ2 cfg) st = st.mapFree (fun p => igs.foldl (fun p ig => integ2P cfg st.forceIdx ig p) p) :=
  foldl_mapFree (integ2P cfg) (fun k ig p => (integ2P_peqV cfg k ig p).2.2.1) (integ2 cfg)
    (fun s ig => by
      cases ig with
      | vv c l m => rfl
      | euler c name => exact (mapFree_id s).symm) igs st

theorem integ1P_fold_ident (idx : Bool) (igs : List Integrator) (p : Particle) :
    (igs.foldl (fun p ig => integ1P cfg idx ig p) p).sameId p :=
  foldl_rel (fun p q : Particle => q.sameId p) .refl (fun _ _ _ h1 h2 => h2.trans h1) _ igs
    (fun p ig _ => integ1P_ident cfg idx ig p) p

/-! ### what a phase writes (`AgreeOff`) -/

theorem partPhase_agree (W : Key → Prop) (k : Bool) (ms : List PartMod) (h : ∀ m ∈ ms, W (m.target.key k))
    (st : State) : AgreeOff W st (partPhase k ms st) :=
  .mapFree W st _ (partFold_frame W k ms h)

theorem pairPhase_agree (W : Key → Prop) (cfg : Config) (k : Bool) (ms : List PairMod)
    (h : ∀ m ∈ ms, W (m.target.key k)) (st : State) : AgreeOff W st (pairPhase cfg k ms st) :=
  AgreeOff.foldl W _ _ (fun s ab _ => AgreeOff.foldl W _ _
    (fun s m hm => pairOp_agree W cfg k m ab.1 ab.2 s (h m hm)) s) st

theorem clearForce_agree (k : Bool) (st : State) : AgreeOff (isForceKey k) st (clearForce k st) :=
  .mapFree _ st _ (fun _ => ⟨.refl _, fun _ hk => if_neg (fun h => hk ⟨_, h⟩)⟩)

theorem clearParticleData_agree (st : State) : AgreeOff (fun _ => True) st (clearParticleData st) :=
  .mapFree _ st _ (fun _ => ⟨.refl _, fun _ h => (h trivial).elim⟩)

theorem clearParticleData_tag (st : State) (i : Nat) (key : Key) :
    ((clearParticleData st).ps i).tag key =
      if (st.ps i).frozen then (st.ps i).tag key
      else if key.inTag && !st.pers (st.ps i).colour key then 0 else (st.ps i).tag key := by
  rw [clearParticleData, mapFree_ps]
  by_cases h : (st.ps i).frozen = true
  · rw [if_pos h, if_pos h]
  · rw [if_neg h, if_neg h]

theorem Target.key_eq_sym {t : Target} {k : Bool} {n : String} : t.key k = .sym n ↔ t = .sym n := by
  cases t <;> simp [Target.key]

theorem Target.key_eq_force {t : Target} {k k' : Bool} {d : Dof} : t.key k = .force d k' ↔ t = .force d ∧ k = k' := by
  cases t <;> simp [Target.key]

theorem Target.isForce_true {t : Target} : t.isForce = true ↔ ∃ d, t = .force d := by cases t <;> simp [Target.isForce]
theorem Target.isForce_false {t : Target} : t.isForce = false ↔ ∃ n, t = .sym n := by cases t <;> simp [Target.isForce]

theorem wf_iff : cfg.wf = true ↔
    (∀ m ∈ cfg.pairForces, ∃ d, m.target = .force d) ∧
    (∀ m ∈ cfg.partForces, (∃ d, m.target = .force d) ∧ m.assign = false) ∧
    (∀ m ∈ cfg.sums, ∃ n, m.target = .sym n) ∧
    (∀ m ∈ cfg.caches, (∃ n, m.target = .sym n) ∧ m.assign = true) := by
  simp only [Config.wf, Bool.and_eq_true, List.all_eq_true, Bool.not_eq_eq_eq_not, Bool.not_true, Target.isForce_true,
    Target.isForce_false, and_assoc]

section
variable {cfg : Config} (h : cfg.wf = true)
include h
theorem wf_pairForces {m : PairMod} (hm : m ∈ cfg.pairForces) : ∃ d, m.target = .force d := ((wf_iff cfg).mp h).1 m hm
theorem wf_partForces {m : PartMod} (hm : m ∈ cfg.partForces) : (∃ d, m.target = .force d) ∧ m.assign = false :=
  ((wf_iff cfg).mp h).2.1 m hm
theorem wf_sums {m : PairMod} (hm : m ∈ cfg.sums) : ∃ n, m.target = .sym n := ((wf_iff cfg).mp h).2.2.1 m hm
theorem wf_caches {m : PartMod} (hm : m ∈ cfg.caches) : (∃ n, m.target = .sym n) ∧ m.assign = true :=
  ((wf_iff cfg).mp h).2.2.2 m hm
end

def stageWrites (cfg : Config) (t : Nat) (key : Key) : Prop :=
  (∃ c ∈ cfg.caches, c.stage = t ∧ key = c.target.key false) ∨
  (∃ m ∈ cfg.sums, m.stage = t ∧ key = m.target.key false)

theorem runStage_agreeW (t : Nat) (st : State) :
    AgreeOff (stageWrites cfg t) st (runStage cfg t st) := by
  refine (partPhase_agree _ false _ (fun c hc => ?_) st).trans (pairPhase_agree _ cfg false _ (fun m hm => ?_) _)
  · have := List.mem_filter.mp hc
    exact Or.inl ⟨c, this.1, by simpa using this.2, rfl⟩
  · have := List.mem_filter.mp hm
    exact Or.inr ⟨m, this.1, by simpa using this.2, rfl⟩

theorem stageWrites_sym {cfg : Config} (hwf : cfg.wf = true) {t : Nat} {key : Key} (h : stageWrites cfg t key) :
    isSymKey key := by
  obtain ⟨c, hc, _, rfl⟩ | ⟨m, hm, _, rfl⟩ := h
  · obtain ⟨⟨n, hn⟩, _⟩ := wf_caches hwf hc; exact ⟨n, by rw [hn]; rfl⟩
  · obtain ⟨n, hn⟩ := wf_sums hwf hm; exact ⟨n, by rw [hn]; rfl⟩

theorem runSymbols_agree (hwf : cfg.wf = true) (st : State) :
    AgreeOff isSymKey st (runSymbols cfg st) :=
  AgreeOff.foldl _ _ _ (fun s t _ => (runStage_agreeW cfg t s).mono (fun _ => stageWrites_sym hwf)) st

theorem forces_agree (hwf : cfg.wf = true) (k : Bool) (S : State) :
    AgreeOff (isForceKey k) S (forces cfg k S) :=
  (pairPhase_agree _ cfg k _ (fun m hm => by
      obtain ⟨d, hd⟩ := wf_pairForces hwf hm; exact ⟨d, by rw [hd]; rfl⟩) S).trans
    (partPhase_agree _ k _ (fun m hm => by
      obtain ⟨⟨d, hd⟩, _⟩ := wf_partForces hwf hm; exact ⟨d, by rw [hd]; rfl⟩) _)

/-! ### persistence of the force attributes of integrated quantities -/

theorem hasFree_of (st : State) (i : Nat) (hi : i < st.n) (hf : (st.ps i).frozen = false) :
    hasFree st (st.ps i).colour = true := by
  simp only [hasFree, List.any_eq_true, List.mem_range]
  exact ⟨i, hi, by simp [hf]⟩

/-- buffer `k` of the quantity `name` of colour `c` is clearable, the other one protected -/
def Unprot (k : Bool) (c : Nat) (name : String) (st : State) : Prop :=
  st.pers c (.force (.user name) k) = false ∧ st.pers c (.force (.user name) (!k)) = true

/-- every `unprotect k` writes these two flags the same way, so once set they stay -/
theorem unprotect_unprot (k : Bool) (c : Nat) (name : String) (st : State) (ig : Integrator)
    (h : Unprot k c name st ∨ (ig = .euler c name ∧ hasFree st c = true)) : Unprot k c name (unprotect k st ig) := by
  cases ig with
  | vv c' l m => exact h.resolve_right (fun h => nomatch h.1)
  | euler c' name' =>
    unfold unprotect Unprot; dsimp only
    by_cases hfree : hasFree st c' = true
    · rw [if_pos hfree]
      by_cases hc : c = c' ∧ name = name'
      · obtain ⟨rfl, rfl⟩ := hc; cases k <;> simp
      · have := h.resolve_right (fun h => hc (by injection h.1 with h1 h2; exact ⟨h1.symm, h2.symm⟩))
        have hne : ∀ k1 k2, ¬ (c = c' ∧ Key.force (Dof.user name) k1 = Key.force (Dof.user name') k2) :=
          fun k1 k2 hh => hc ⟨hh.1, by injection hh.2 with h3 _; injection h3⟩
        simp only [hne, if_false]; exact this
    · rw [if_neg hfree]
      exact h.resolve_right (fun h => by injection h.1 with h1 h2; subst h1; exact hfree h.2)

theorem unprotect_fold_unprot (k : Bool) (igs : List Integrator) (c : Nat) (name : String) (st : State)
    (hfree : hasFree st c = true) (h : Unprot k c name st ∨ Integrator.euler c name ∈ igs) :
    Unprot k c name (igs.foldl (unprotect k) st) := by
  induction igs generalizing st with
  | nil => exact h.resolve_right (by simp)
  | cons ig igs ih =>
    have hk := unprotect_keeps k st ig
    refine ih _ (by rw [(Pres.ofPs _ _ hk.1 hk.2.1).hasFree_eq]; exact hfree) ?_
    rcases h with h | h
    · exact Or.inl (unprotect_unprot k c name st ig (Or.inl h))
    · rcases List.mem_cons.mp h with h | h
      · exact Or.inl (unprotect_unprot k c name st ig (Or.inr ⟨h.symm, hfree⟩))
      · exact Or.inr h

theorem unprotect_pers_sym (k : Bool) (st : State) (ig : Integrator) (c : Nat) (n : String) :
    (unprotect k st ig).pers c (.sym n) = st.pers c (.sym n) := by
  cases ig with
  | vv c' l m => rfl
  | euler c' name =>
    unfold unprotect; dsimp only
    by_cases h : hasFree st c' = true
    · rw [if_pos h]; simp
    · rw [if_neg h]

theorem unprotect_fold_pers_sym (k : Bool) (igs : List Integrator) (st : State) (c : Nat) (n : String) :
    (igs.foldl (unprotect k) st).pers c (.sym n) = st.pers c (.sym n) := by
  induction igs generalizing st with
  | nil => rfl
  | cons ig igs ih => rw [List.foldl_cons, ih, unprotect_pers_sym]

/-! ### the force on a particle -/

/-- what pair module `m` contributes to particle `i` in state `S`: over all partners `b` with `(i,b)` a list entry inside the
module's cutoff (`i` first particle), plus over all `a` with `(a,i)` one (`i` second particle) -/
def pairForceOn (cfg : Config) (m : PairMod) (S : State) (i : Nat) : Vec3 :=
  vsum ((List.range S.n).map (fun b =>
      if pairActive cfg m S i b then m.first (mkEnv cfg.box (S.ps i) (S.ps b)) else 0))
  + vsum ((List.range S.n).map (fun a =>
      if pairActive cfg m S a i then m.second (mkEnv cfg.box (S.ps a) (S.ps i)) else 0))

theorem vsum_map_ite_const {α} (c : Prop) [Decidable c] (l : List α) (f : α → Vec3) :
    vsum (l.map (fun x => if c then f x else 0)) = if c then vsum (l.map f) else 0 := by
  split
  · rfl
  · exact vsum_map_zero _ _ (fun _ _ => rfl)

/-- of the double sum over all list entries only the row and the column of `i` remain -/
theorem pairContrib_eq (k : Bool) (m : PairMod) (S : State) (i : Nat) (key : Key)
    (hi : i < S.n) (hf : (S.ps i).frozen = false) :
    pairContrib cfg k m S i key = if key = m.target.key k then pairForceOn cfg m S i else 0 := by
  unfold pairContrib
  split
  · rename_i hk; subst hk
    -- of `a`, `b` the one that is `i` receives something (`i` is free)
    have hx : ∀ (x : Nat) (v : Vec3),
        (if i = x ∧ (S.ps x).frozen = false ∧ m.target.key k = m.target.key k then v else 0) = if x = i then v else 0 :=
      fun x v => by
        by_cases h : x = i
        · subst h; rw [if_pos ⟨rfl, hf, rfl⟩, if_pos rfl]
        · rw [if_neg (fun h' => h h'.1.symm), if_neg h]
    have hpt : ∀ a b, pairDelta cfg k m S a b i (m.target.key k) =
        (if a = i then (if pairActive cfg m S a b then m.first (mkEnv cfg.box (S.ps a) (S.ps b)) else 0) else 0)
        + (if b = i then (if pairActive cfg m S a b then m.second (mkEnv cfg.box (S.ps a) (S.ps b)) else 0) else 0) := by
      intro a b
      unfold pairDelta
      by_cases hact : pairActive cfg m S a b = true
      · rw [if_pos hact, if_pos hact, if_pos hact, hx, hx]
      · simp only [if_neg hact, ite_self, Vec3.add_zero]
    simp only [hpt, vsum_map_add, vsum_map_ite_const, vsum_range_ite _ _ hi]
    rfl
  · rename_i hk
    exact vsum_map_zero _ _ (fun a _ => vsum_map_zero _ _ (fun b _ => pairDelta_off _ _ _ _ _ _ _ _ hk))

/-- THE RIGHT-HAND SIDE OF C05: every registered force module driving dof `d`, each exactly once,
evaluated on state `S` for particle `i` -/
def totalForce (cfg : Config) (S : State) (i : Nat) (d : Dof) : Vec3 :=
  vsum (cfg.pairForces.map (fun m => if m.target = .force d then pairForceOn cfg m S i else 0))
  + vsum (cfg.partForces.map (fun m =>
      if m.target = .force d ∧ m.colour = (S.ps i).colour then m.expr.eval (envP (S.ps i)) else 0))

theorem forces_spec (hwf : cfg.wf = true) (k : Bool) (S : State) (i : Nat)
    (hi : i < S.n) (hf : (S.ps i).frozen = false) (d : Dof) :
    ((forces cfg k S).ps i).tag (.force d k) = (S.ps i).tag (.force d k) + totalForce cfg S i d := by
  obtain ⟨hA, hT⟩ := pairPhase_spec (isForceKey k) cfg k cfg.pairForces S
    (fun m hm => by obtain ⟨d, hd⟩ := wf_pairForces hwf hm; exact ⟨d, by rw [hd]; rfl⟩)
    (fun _ _ _ _ => not_isForceKey_sym)
  have hb := hA.body i
  rw [forces, partPhase_forces_spec k _ (fun m hm => wf_partForces hwf hm), hT, hb.frozen, hf, totalForce,
    Vec3.add_assoc]
  congr 2
  · refine vsum_map_congr _ _ _ (fun m hm => ?_)
    obtain ⟨d', hd'⟩ := wf_pairForces hwf hm
    rw [pairContrib_eq cfg k m S i _ hi hf, hd']
    simp [Target.key, eq_comm]
  · refine vsum_map_congr _ _ _ (fun m hm => ?_)
    obtain ⟨⟨d', hd'⟩, _⟩ := wf_partForces hwf hm
    rw [partDelta, hb.colour, hd', (hb.view _ (hA.tag i)).eval_envP _ (fun _ => trivial)
      (fun _ _ => not_isForceKey_sym)]
    simp [Target.key, eq_comm, and_comm]

/-! ### the state the forces are evaluated on -/

/-- `d` has force buffers on `p`: the velocity always, a user quantity if its integrator is registered for the colour -/
def Driven (cfg : Config) (p : Particle) (d : Dof) : Prop :=
  d = .vel ∨ ∃ name, d = .user name ∧ Integrator.euler p.colour name ∈ cfg.integrators

theorem preForce_tag (k : Bool) (st : State) (i : Nat) (hf : (st.ps i).frozen = false) (key : Key)
    (hk : ∀ s : State, ((runSymbols cfg s).ps i).tag key = (s.ps i).tag key) :
    ((preForce cfg k st).ps i).tag key =
      if key.inTag && !(cfg.integrators.foldl (unprotect k) (clearForce k st)).pers (st.ps i).colour key then 0
      else if key = .force .vel k then 0 else (st.ps i).tag key := by
  have e : (clearForce k st).ps i = (st.ps i).setTag (.force .vel k) 0 := by rw [clearForce, mapFree_ps, hf]; rfl
  rw [preForce, hk, clearParticleData_tag, (unprotect_fold_keeps ..).1, e, setTag_frozen, hf, setTag_colour, setTag_tag]
  rfl

theorem preForce_unprot (k : Bool) (st : State) (i : Nat) (hi : i < st.n)
    (hf : (st.ps i).frozen = false) (name : String) (hmem : Integrator.euler (st.ps i).colour name ∈ cfg.integrators) :
    Unprot k (st.ps i).colour name (cfg.integrators.foldl (unprotect k) (clearForce k st)) :=
  unprotect_fold_unprot k _ _ name _ (by rw [(clearForce_pres k st).hasFree_eq]; exact hasFree_of st i hi hf) (Or.inr hmem)

/-- buffer `k` is zero when the force loops start (`clear(other)` for the velocity, `unprotect(other)` + `clearParticleData`
for an integrated quantity); the other buffer is intact (`force_<s>_<idx>` because `unprotect(other)` protects it) -/
theorem preForce_force (hwf : cfg.wf = true) (k : Bool) (st : State) (i : Nat)
    (hi : i < st.n) (hf : (st.ps i).frozen = false) (d : Dof) (hd : Driven cfg (st.ps i) d) :
    ((preForce cfg k st).ps i).tag (.force d k) = 0 ∧
    ((preForce cfg k st).ps i).tag (.force d (!k)) = (st.ps i).tag (.force d (!k)) := by
  have hk := fun k' s => (runSymbols_agree cfg hwf s).tag i (.force d k') not_isSymKey_force
  rw [preForce_tag cfg k st i hf _ (hk k), preForce_tag cfg k st i hf _ (hk (!k))]
  have hne : Key.force d (!k) ≠ Key.force .vel k := fun h => by injection h with _ h; cases k <;> cases h
  obtain rfl | ⟨name, rfl, hmem⟩ := hd
  · simp [Key.inTag, hne]
  · have hu := preForce_unprot cfg k st i hi hf name hmem
    simp [Key.inTag, hu.1, hu.2]

theorem preForce_body (hwf : cfg.wf = true) (k : Bool) (st : State) (i : Nat) :
    ((preForce cfg k st).ps i).sameBody (st.ps i) := by
  have h := ((clearParticleData_agree (cfg.integrators.foldl (unprotect k) (clearForce k st))).trans
    ((runSymbols_agree cfg hwf _).mono (fun _ _ => trivial))).body i
  rw [(unprotect_fold_keeps ..).1] at h
  exact h.trans ((clearForce_agree k st).body i)

/-! ### one time step -/

/-- the state on which `step` evaluates the forces -/
def preState (cfg : Config) (st : State) : State :=
  preForce cfg (!st.forceIdx) (cfg.integrators.foldl (integ1 cfg) st)

/-- `m_force_index = other` -/
def State.setIdx (st : State) (k : Bool) : State := { st with forceIdx := k }

@[simp] theorem setIdx_ps (st : State) (k : Bool) : (st.setIdx k).ps = st.ps := rfl
@[simp] theorem setIdx_forceIdx (st : State) (k : Bool) : (st.setIdx k).forceIdx = k := rfl
@[simp] theorem setIdx_pers (st : State) (k : Bool) : (st.setIdx k).pers = st.pers := rfl
theorem setIdx_pres (st : State) (k : Bool) : Pres st (st.setIdx k) := Pres.ofPs _ _ rfl rfl

theorem step_eq (st : State) :
    step cfg st = cfg.integrators.foldl (integ2 cfg) ((forces cfg (!st.forceIdx) (preState cfg st)).setIdx (!st.forceIdx)) :=
  rfl

theorem step_forceIdx (st : State) : (step cfg st).forceIdx = !st.forceIdx := by
  rw [step_eq, integ2_fold, mapFree_forceIdx, setIdx_forceIdx]

theorem step_ps (st : State) (i : Nat) :
    (step cfg st).ps i = if ((forces cfg (!st.forceIdx) (preState cfg st)).ps i).frozen
      then (forces cfg (!st.forceIdx) (preState cfg st)).ps i
      else cfg.integrators.foldl (fun p ig => integ2P cfg (!st.forceIdx) ig p)
        ((forces cfg (!st.forceIdx) (preState cfg st)).ps i) := by
  rw [step_eq, integ2_fold, mapFree_ps, setIdx_ps, setIdx_forceIdx]

theorem step_tag (st : State) (i : Nat) :
    ((step cfg st).ps i).tag = ((forces cfg (!st.forceIdx) (preState cfg st)).ps i).tag := by
  rw [step_ps]; split
  · rfl
  · exact (integ2P_fold_peqV ..).2.2.2.2

theorem integ1s_pres (st : State) : Pres st (cfg.integrators.foldl (integ1 cfg) st) := by
  rw [integ1_fold]; exact Pres.mapFree _ _ (fun p => integ1P_fold_ident ..)

theorem integ2s_pres (st : State) : Pres st (cfg.integrators.foldl (integ2 cfg) st) := by
  rw [integ2_fold]
  exact Pres.mapFree _ _ (fun p => have h := integ2P_fold_peqV cfg st.forceIdx cfg.integrators p; ⟨h.1, h.2.1, h.2.2.1⟩)

theorem preState_pres (st : State) : Pres st (preState cfg st) :=
  (integ1s_pres cfg st).trans (preForce_pres cfg _ _)

theorem step_pres (st : State) : Pres st (step cfg st) := by
  rw [step_eq]
  exact (preState_pres cfg st).trans ((forces_pres cfg _ _).trans ((setIdx_pres _ _).trans (integ2s_pres cfg _)))

/-- C05, core: after `step`, the current force buffer of every free particle holds exactly the sum of
all registered force modules evaluated on `preState` — nothing else. -/
theorem step_force (hwf : cfg.wf = true) (st : State) (i : Nat)
    (hi : i < st.n) (hf : (st.ps i).frozen = false) (d : Dof) (hd : Driven cfg (st.ps i) d) :
    ((step cfg st).ps i).tag (.force d (step cfg st).forceIdx) = totalForce cfg (preState cfg st) i d := by
  have h1 := integ1s_pres cfg st
  have hp := preState_pres cfg st
  rw [step_forceIdx, step_tag, forces_spec cfg hwf _ _ i (hp.lt hi) (hp.free hf) d, preState,
    (preForce_force cfg hwf _ _ i (h1.lt hi) (h1.free hf) d (by rw [Driven, h1.colour_eq]; exact hd)).1, Vec3.zero_add]

/-! ### the initial force computation -/

/-- the state on which `init` evaluates the forces -/
def initState (cfg : Config) (st : State) : State :=
  runSymbols cfg (clearParticleData (cfg.integrators.foldl aboutToStart (clearForce true (clearForce false st))))

theorem init_eq (st : State) : init cfg st = forces cfg st.forceIdx (initState cfg st) := rfl

theorem aboutToStart_agree (st : State) (ig : Integrator) :
    AgreeOff (fun key => ∃ d k, key = .force d k) st (aboutToStart st ig) := by
  cases ig <;> exact .mapFree _ st _ (fun p => onColour_cases
    (fun q => q.sameBody p ∧ ∀ key, ¬ (∃ d k, key = .force d k) → q.tag key = p.tag key) _ _ p
    ⟨.refl _, fun key hk => by
      rw [setTag_tag, setTag_tag, if_neg (fun h => hk ⟨_, _, h⟩), if_neg (fun h => hk ⟨_, _, h⟩)]⟩
    ⟨.refl _, fun _ _ => rfl⟩)

theorem initInput_agree (st : State) :
    AgreeOff (fun key => ∃ d k, key = .force d k) st
      (cfg.integrators.foldl aboutToStart (clearForce true (clearForce false st))) :=
  (((clearForce_agree false st).mono (fun _ ⟨d, h⟩ => ⟨d, _, h⟩)).trans
    ((clearForce_agree true _).mono (fun _ ⟨d, h⟩ => ⟨d, _, h⟩))).trans
    (AgreeOff.foldl _ _ _ (fun s ig _ => aboutToStart_agree s ig) _)

theorem initState_pres (st : State) : Pres st (initState cfg st) :=
  ((((clearForce_pres false st).trans (clearForce_pres true _)).trans
    (Pres.foldl _ _ (fun s a _ => aboutToStart_pres s a) _)).trans (clearParticleData_pres _)).trans
    (runSymbols_pres cfg _)

theorem init_pres (st : State) : Pres st (init cfg st) :=
  (initState_pres cfg st).trans (forces_pres cfg _ _)

theorem run_pres (n : Nat) (st : State) : Pres st (run cfg n st) := by
  induction n with
  | zero => exact Pres.refl st
  | succ n ih => exact ih.trans (step_pres cfg _)

theorem run_init_pres (n : Nat) (st : State) : Pres st (run cfg n (init cfg st)) :=
  (init_pres cfg st).trans (run_pres cfg n _)

theorem init_agree (hwf : cfg.wf = true) (st : State) :
    AgreeOff (fun _ => True) st (init cfg st) :=
  ((((initInput_agree cfg st).mono (fun _ _ => trivial)).trans (clearParticleData_agree _)).trans
    ((runSymbols_agree cfg hwf _).mono (fun _ _ => trivial))).trans
    ((forces_agree cfg hwf _ _).mono (fun _ _ => trivial))

/-- `isAboutToStart` only ever writes zeros -/
theorem aboutToStart_zero (st : State) (ig : Integrator) (i : Nat) (key : Key)
    (h : (st.ps i).tag key = 0 ∨ ((st.ps i).frozen = false ∧
      ∃ name k, ig = .euler (st.ps i).colour name ∧ key = .force (.user name) k)) :
    ((aboutToStart st ig).ps i).tag key = 0 := by
  obtain h | ⟨hf, name, k, rfl, rfl⟩ := h
  · cases ig <;> simp only [aboutToStart, mapFree_ps, onColour] <;> (repeat' split) <;> simp [*]
  · cases k <;> simp [aboutToStart, hf, onColour]

theorem aboutToStart_fold_zero (igs : List Integrator) (st : State) (i : Nat) (key : Key)
    (h : (st.ps i).tag key = 0 ∨ ((st.ps i).frozen = false ∧
      ∃ name k, .euler (st.ps i).colour name ∈ igs ∧ key = .force (.user name) k)) :
    ((igs.foldl aboutToStart st).ps i).tag key = 0 := by
  induction igs generalizing st with
  | nil => exact h.resolve_right (fun ⟨_, _, _, h, _⟩ => nomatch h)
  | cons ig igs ih =>
    have hp := aboutToStart_pres st ig
    refine ih _ ?_
    obtain h | ⟨hf, name, k, hmem, hk⟩ := h
    · exact Or.inl (aboutToStart_zero st ig i key (Or.inl h))
    · rcases List.mem_cons.mp hmem with h | h
      · exact Or.inl (aboutToStart_zero st ig i key (Or.inr ⟨hf, name, k, h.symm, hk⟩))
      · exact Or.inr ⟨hp.free hf, name, k, by rw [hp.colour_eq]; exact h, hk⟩

theorem initState_clears (hwf : cfg.wf = true) (st : State) (i : Nat)
    (hf : (st.ps i).frozen = false) (d : Dof) (k : Bool) (hd : Driven cfg (st.ps i) d) :
    ((initState cfg st).ps i).tag (.force d k) = 0 := by
  have hz : ((cfg.integrators.foldl aboutToStart (clearForce true (clearForce false st))).ps i).tag (.force d k) = 0 := by
    apply aboutToStart_fold_zero
    obtain rfl | ⟨name, rfl, hmem⟩ := hd
    · left; cases k <;> simp [clearForce, hf]
    · right; exact ⟨by simp [clearForce, hf], name, k, by simpa [clearForce, hf] using hmem, rfl⟩
  rw [initState, (runSymbols_agree cfg hwf _).tag i _ not_isSymKey_force, clearParticleData_tag, hz]
  simp only [ite_self]

/-- C05 for the force computation before the main loop -/
theorem init_force (hwf : cfg.wf = true) (st : State) (i : Nat)
    (hi : i < st.n) (hf : (st.ps i).frozen = false) (d : Dof) (hd : Driven cfg (st.ps i) d) :
    ((init cfg st).ps i).tag (.force d st.forceIdx) = totalForce cfg (initState cfg st) i d := by
  have hp := initState_pres cfg st
  rw [init_eq, forces_spec cfg hwf _ _ i (hp.lt hi) (hp.free hf) d, initState_clears cfg hwf st i hf d _ hd,
    Vec3.zero_add]

theorem run_forceIdx (n : Nat) (st : State) :
    (run cfg n st).forceIdx = (if n % 2 = 0 then st.forceIdx else !st.forceIdx) := by
  induction n with
  | zero => rfl
  | succ n ih =>
    rw [run, step_forceIdx, ih]
    rcases Nat.mod_two_eq_zero_or_one n with h | h <;> simp [h, Nat.add_mod]

/-! ### the integrators of one particle in closed form -/

/-- `(lambda, mass)` of the velocity-Verlet integrators registered for colour `c` -/
def vvOfL (igs : List Integrator) (c : Nat) : List (Rat × Rat) :=
  igs.filterMap (fun ig => match ig with
    | .vv c' l m => if c' = c then some (l, m) else none
    | .euler _ _ => none)

def vvOf (cfg : Config) (c : Nat) : List (Rat × Rat) := vvOfL cfg.integrators c

/-- a fold in which only the elements picked by `g` act on the part `π` of the state that is being watched -/
theorem foldl_filterMap {α β γ δ} (π : β → δ) (I : β → Prop) (g : α → Option γ) (f : β → α → β) (f' : δ → γ → δ)
    (h : ∀ s a, I s → I (f s a) ∧ π (f s a) = match g a with | some y => f' (π s) y | none => π s) :
    ∀ (l : List α) (s : β), I s → π (l.foldl f s) = (l.filterMap g).foldl f' (π s) := by
  intro l
  induction l with
  | nil => exact fun _ _ => rfl
  | cons a l ih =>
    intro s hs
    obtain ⟨h1, h2⟩ := h s a hs
    rw [List.foldl_cons, ih _ h1, h2, List.filterMap_cons]
    cases g a <;> rfl

theorem integ1P_force (idx : Bool) (ig : Integrator) (p : Particle) (d : Dof) (k : Bool) :
    (integ1P cfg idx ig p).tag (.force d k) = p.tag (.force d k) := by
  cases ig <;> simp only [integ1P, onColour] <;> split <;> simp [eulerStep1, vvStep1]

theorem integ1P_fold_force (idx : Bool) (igs : List Integrator) (p : Particle) (d : Dof) (k : Bool) :
    (igs.foldl (fun p ig => integ1P cfg idx ig p) p).tag (.force d k) = p.tag (.force d k) := by
  induction igs generalizing p with
  | nil => rfl
  | cons ig igs ih => rw [List.foldl_cons, ih, integ1P_force]

theorem integ1P_fold_vv (idx : Bool) (igs : List Integrator) (p : Particle) :
    { igs.foldl (fun p ig => integ1P cfg idx ig p) p with tag := p.tag }
      = (vvOfL igs p.colour).foldl (fun q lm => vvStep1 cfg.box cfg.dt lm.1 lm.2 idx q) p := by
  refine foldl_filterMap (fun q : Particle => { q with tag := p.tag })
    (fun q => q.colour = p.colour ∧ q.tag (.force .vel idx) = p.tag (.force .vel idx)) _ _ _ (fun q ig hq => ?_) igs p ⟨rfl, rfl⟩
  refine ⟨⟨(integ1P_ident ..).1.trans hq.1, (integ1P_force ..).trans hq.2⟩, ?_⟩
  cases ig with
  | vv c l m =>
    by_cases hc : c = p.colour
    · simp only [integ1P, onColour, hq.1, hc, if_true, vvStep1, hq.2]
    · simp only [integ1P, onColour, hq.1, Ne.symm hc, hc, if_false]
  | euler c name => simp only [integ1P, onColour]; split <;> rfl

theorem integ2P_fold_vv (idx : Bool) (igs : List Integrator) (p : Particle) :
    igs.foldl (fun p ig => integ2P cfg idx ig p) p
      = (vvOfL igs p.colour).foldl (fun q lm => vvStep2 cfg.dt lm.1 lm.2 idx q) p := by
  refine foldl_filterMap id (fun q => q.colour = p.colour) _ _ _ (fun q ig hq => ?_) igs p rfl
  refine ⟨(integ2P_peqV ..).1.trans hq, ?_⟩
  cases ig with
  | vv c l m =>
    by_cases hc : c = p.colour
    · simp only [integ2P, onColour, hq, hc, if_true, id]
    · simp only [integ2P, onColour, hq, Ne.symm hc, hc, if_false, id]
  | euler c name => rfl

theorem integ1s_ps (st : State) (i : Nat) (hf : (st.ps i).frozen = false) :
    (cfg.integrators.foldl (integ1 cfg) st).ps i
      = cfg.integrators.foldl (fun p ig => integ1P cfg st.forceIdx ig p) (st.ps i) := by
  rw [integ1_fold, mapFree_ps, hf]; rfl

theorem integ1s_pers (st : State) : (cfg.integrators.foldl (integ1 cfg) st).pers = st.pers := by
  rw [integ1_fold]; rfl

theorem postForce_body (hwf : cfg.wf = true) (st : State) (i : Nat) :
    ((forces cfg (!st.forceIdx) (preState cfg st)).ps i).sameBody ((cfg.integrators.foldl (integ1 cfg) st).ps i) :=
  ((forces_agree cfg hwf _ _).body i).trans (preForce_body cfg hwf _ _ i)

theorem step_r (hwf : cfg.wf = true) (st : State) (i : Nat) :
    ((step cfg st).ps i).r = ((cfg.integrators.foldl (integ1 cfg) st).ps i).r := by
  rw [step_ps]; split
  · exact (postForce_body cfg hwf st i).r
  · exact (integ2P_fold_peqV ..).2.2.2.1.trans (postForce_body cfg hwf st i).r

/-- C05 (nothing dropped): the force evaluation of `step` keeps the previous force buffer intact -/
theorem step_keeps_old (hwf : cfg.wf = true) (st : State) (i : Nat)
    (hi : i < st.n) (hf : (st.ps i).frozen = false) (d : Dof) (hd : Driven cfg (st.ps i) d) :
    ((step cfg st).ps i).tag (.force d st.forceIdx) = (st.ps i).tag (.force d st.forceIdx) := by
  have h1 := integ1s_pres cfg st
  have h := ((forces_agree cfg hwf (!st.forceIdx) (preState cfg st)).tag i (.force d (!!st.forceIdx)) not_isForceKey_not).trans
    (preForce_force cfg hwf (!st.forceIdx) _ i (h1.lt hi) (h1.free hf) d (by rw [Driven, h1.colour_eq]; exact hd)).2
  rw [Bool.not_not, integ1s_ps cfg st i hf, integ1P_fold_force] at h
  rw [step_tag, h]

theorem step_ps_free (hwf : cfg.wf = true) (st : State) (i : Nat) (hf : (st.ps i).frozen = false) :
    (step cfg st).ps i = cfg.integrators.foldl (fun p ig => integ2P cfg (!st.forceIdx) ig p)
      ((forces cfg (!st.forceIdx) (preState cfg st)).ps i) := by
  rw [step_ps, (postForce_body cfg hwf st i).frozen, (integ1s_pres cfg st).free hf]; rfl

theorem vvStep2_v (dt l m : Rat) (idx : Bool) (p : Particle) :
    (vvStep2 dt l m idx p).v = p.v + (dt * (1 / 2 - l)) • ((1 / m) • p.tag (.force .vel (!idx)))
      + (dt / 2) • ((1 / m) • p.tag (.force .vel idx)) := by
  unfold vvStep2
  by_cases h : l = 1 / 2
  · rw [if_neg (fun hn => hn h), h, Rat.sub_self, Rat.mul_zero, Vec3.zero_smul, Vec3.add_zero]
  · rw [if_pos h]

/-- one `step` of a free particle, through the velocity Verlets registered for its colour -/
theorem step_free (hwf : cfg.wf = true) (st : State) (i : Nat) (hf : (st.ps i).frozen = false) :
    let p1 := (vvOf cfg (st.ps i).colour).foldl (fun q lm => vvStep1 cfg.box cfg.dt lm.1 lm.2 st.forceIdx q) (st.ps i)
    let q := (forces cfg (!st.forceIdx) (preState cfg st)).ps i
    q.r = p1.r ∧ q.v = p1.v ∧
    (step cfg st).ps i = (vvOf cfg (st.ps i).colour).foldl (fun q lm => vvStep2 cfg.dt lm.1 lm.2 (!st.forceIdx) q) q := by
  have hb := postForce_body cfg hwf st i
  have h1 := integ1P_fold_vv cfg st.forceIdx cfg.integrators (st.ps i)
  rw [← integ1s_ps cfg st i hf] at h1
  refine ⟨hb.r.trans (congrArg Particle.r h1 :), hb.v.trans (congrArg Particle.v h1 :), ?_⟩
  rw [step_ps_free cfg hwf st i hf, integ2P_fold_vv, hb.colour, (integ1s_pres cfg st).colour_eq]; rfl

theorem step_noVV (hwf : cfg.wf = true) (st : State) (i : Nat)
    (hf : (st.ps i).frozen = false) (hvv : vvOf cfg (st.ps i).colour = []) :
    ((step cfg st).ps i).r = (st.ps i).r ∧ ((step cfg st).ps i).v = (st.ps i).v := by
  obtain ⟨hr, hv, h2⟩ := step_free cfg hwf st i hf
  simp only [hvv, List.foldl_nil] at hr hv h2
  rw [h2]; exact ⟨hr, hv⟩

/-- predictor `lambda`, corrector `1/2 - lambda`, then `1/2` of the new force -/
theorem vv_velocity (v f f' : Vec3) (l dt m : Rat) :
    v + l • (dt • ((1 / m) • f)) + (dt * (1 / 2 - l)) • ((1 / m) • f) + (dt / 2) • ((1 / m) • f')
      = v + (dt / 2) • ((1 / m) • (f + f')) := by
  rw [Vec3.add_assoc v, Vec3.smul_smul, ← Vec3.add_smul, show l * dt + dt * (1 / 2 - l) = dt / 2 by grind,
    Vec3.add_assoc, ← Vec3.smul_add, ← Vec3.smul_add]

/-- exactly one velocity Verlet `(lambda, mass)` for the colour: position update with the OLD force, velocity update with
the mean of old and new force — whatever `lambda` is -/
theorem step_vv (hwf : cfg.wf = true) (st : State) (i : Nat) (hi : i < st.n)
    (hf : (st.ps i).frozen = false) (l m : Rat) (hvv : vvOf cfg (st.ps i).colour = [(l, m)]) :
    ((step cfg st).ps i).r = wrap cfg.box ((st.ps i).r + cfg.dt • ((st.ps i).v
        + ((1 / 2 : Rat) * cfg.dt) • ((1 / m) • (st.ps i).tag (.force .vel st.forceIdx)))) ∧
    ((step cfg st).ps i).v = (st.ps i).v + (cfg.dt / 2) • ((1 / m) •
        ((st.ps i).tag (.force .vel st.forceIdx) + ((step cfg st).ps i).tag (.force .vel (!st.forceIdx)))) := by
  obtain ⟨hr, hv, h2⟩ := step_free cfg hwf st i hf
  simp only [hvv, List.foldl_cons, List.foldl_nil] at hr hv h2
  refine ⟨by rw [h2]; exact (vvStep2_peqV ..).2.2.2.1.trans hr, ?_⟩
  have hv2 := congrArg Particle.v h2
  rw [vvStep2_v, hv, Bool.not_not, ← step_tag, step_keeps_old cfg hwf st i hi hf .vel (Or.inl rfl)] at hv2
  exact hv2.trans (vv_velocity ..)

/-! ### list cutoff ≥ own cutoff -/

theorem maxCut_ge_acc (c1 c2 : Nat) (ms : List PairMod) (acc : Rat) : acc ≤ maxCut c1 c2 acc ms :=
  foldl_rel (· ≤ ·) (fun _ => Rat.le_refl) (fun _ _ _ => Rat.le_trans) _ ms (fun a m _ => by
    split
    · split
      · rename_i h; exact Rat.le_of_lt h
      · exact Rat.le_refl
    · exact Rat.le_refl) acc

theorem maxCut_ge_mem (c1 c2 : Nat) (ms : List PairMod) (acc : Rat) (m : PairMod) (hm : m ∈ ms)
    (h1 : m.c1 = c1) (h2 : m.c2 = c2) : m.cutoff ≤ maxCut c1 c2 acc ms := by
  induction ms generalizing acc with
  | nil => cases hm
  | cons m' ms ih =>
    simp only [maxCut, List.foldl_cons]
    rcases List.mem_cons.mp hm with rfl | h
    · simp only [h1, h2, and_self, if_true]
      split
      · exact maxCut_ge_acc c1 c2 ms _
      · rename_i hlt
        exact Rat.le_trans (Rat.not_lt.mp hlt) (maxCut_ge_acc c1 c2 ms _)
    · exact ih _ h

theorem cutoff_le_listCutoff (m : PairMod) (hm : m ∈ cfg.pairForces ∨ m ∈ cfg.sums) :
    m.cutoff ≤ listCutoff cfg m.c1 m.c2 := by
  unfold listCutoff
  rcases hm with h | h
  · exact Rat.le_trans (maxCut_ge_mem _ _ _ 0 m h rfl rfl) (maxCut_ge_acc _ _ _ _)
  · exact maxCut_ge_mem _ _ _ _ m h rfl rfl

/-- the geometric part of "is a list entry": everything except the list cutoff -/
def pairGuard (st : State) (c1 c2 a b : Nat) : Bool :=
  a ≠ b && (st.ps a).colour = c1 && (st.ps b).colour = c2 && (c1 ≠ c2 || a < b)
    && !((st.ps a).frozen && (st.ps b).frozen)

/-- for a registered module the list cutoff never filters anything its own cutoff lets through -/
theorem pairActive_iff (m : PairMod) (hm : m ∈ cfg.pairForces ∨ m ∈ cfg.sums)
    (hc : 0 ≤ m.cutoff) (st : State) (a b : Nat) :
    pairActive cfg m st a b = (pairGuard st m.c1 m.c2 a b && inCut cfg m (st.ps a) (st.ps b)) := by
  unfold pairActive inList pairGuard
  by_cases hin : inCut cfg m (st.ps a) (st.ps b) = true
  · have hle := cutoff_le_listCutoff cfg m hm
    have h2 : m.cutoff * m.cutoff ≤ listCutoff cfg m.c1 m.c2 * listCutoff cfg m.c1 m.c2 :=
      Rat.le_trans (Rat.mul_le_mul_of_nonneg_left hle hc) (Rat.mul_le_mul_of_nonneg_right hle (Rat.le_trans hc hle))
    have : (dist cfg.box (st.ps a) (st.ps b)).norm2 < listCutoff cfg m.c1 m.c2 * listCutoff cfg m.c1 m.c2 :=
      Std.lt_of_lt_of_le (of_decide_eq_true hin) h2
    simp [hin, this]
  · simp [hin]

/-! ### pair sums (C07) -/

theorem foldl_range_split {β} (f : β → Nat → β) (M s : Nat) (hs : s ≤ M) (b : β) :
    (List.range (M + 1)).foldl f b
      = ((List.range (M - s)).map (fun x => s + (x + 1))).foldl f (f ((List.range s).foldl f b) s) := by
  have e : M + 1 = s + ((M - s) + 1) := by omega
  rw [e, List.range_add, List.foldl_append, List.range_succ_eq_map]
  simp [List.map_map, Function.comp_def]

theorem le_foldl_max (l : List Nat) (a : Nat) : a ≤ l.foldl max a :=
  foldl_rel (· ≤ ·) Nat.le_refl (fun _ _ _ => Nat.le_trans) max l (fun a b _ => Nat.le_max_left a b) a

theorem mem_le_foldl_max (l : List Nat) (a x : Nat) (h : x ∈ l) : x ≤ l.foldl max a := by
  induction l generalizing a with
  | nil => cases h
  | cons b l ih =>
    rcases List.mem_cons.mp h with rfl | h
    · exact Nat.le_trans (Nat.le_max_right a x) (le_foldl_max l _)
    · exact ih _ h

theorem stage_le_maxStage (m : PairMod) (hm : m ∈ cfg.sums) : m.stage ≤ maxStage cfg :=
  mem_le_foldl_max _ _ _ (List.mem_append_right _ (List.mem_map_of_mem hm))

theorem foldl_runStage_keeps (name : String) (l : List Nat)
    (hc : ∀ t ∈ l, ∀ c ∈ cfg.caches, c.stage = t → c.target ≠ .sym name)
    (hs : ∀ t ∈ l, ∀ m ∈ cfg.sums, m.stage = t → m.target ≠ .sym name) (st : State) (i : Nat) :
    ((l.foldl (fun st t => runStage cfg t st) st).ps i).tag (.sym name) = (st.ps i).tag (.sym name) := by
  refine (AgreeOff.foldl (fun key => ∃ t ∈ l, stageWrites cfg t key) _ l
    (fun s t ht => (runStage_agreeW cfg t s).mono (fun _ h => ⟨t, ht, h⟩)) st).tag i _ ?_
  rintro ⟨t, ht, ⟨c, hc', hst, hk⟩ | ⟨m, hm, hst, hk⟩⟩
  · exact hc t ht c hc' hst (Target.key_eq_sym.mp hk.symm)
  · exact hs t ht m hm hst (Target.key_eq_sym.mp hk.symm)

def NotComputed (cfg : Config) (name : String) : Prop :=
  (∀ c ∈ cfg.caches, c.target ≠ .sym name) ∧ (∀ m ∈ cfg.sums, m.target ≠ .sym name)

theorem runSymbols_keeps (name : String) (h : NotComputed cfg name) (st : State) (i : Nat) :
    ((runSymbols cfg st).ps i).tag (.sym name) = (st.ps i).tag (.sym name) :=
  foldl_runStage_keeps cfg name _ (fun _ _ c hc _ => h.1 c hc) (fun _ _ m hm _ => h.2 m hm) st i

/-- the state on which the pair sums of stage `s` are evaluated: all symbols of the stages `< s`
and the particle caches of stage `s` have been computed -/
def stageState (cfg : Config) (s : Nat) (st : State) : State :=
  partPhase false (cfg.caches.filter (·.stage = s)) ((List.range s).foldl (fun st t => runStage cfg t st) st)

/-- hypotheses of C07 for the pair sum `m` writing the symbol `name` -/
structure SumOK (cfg : Config) (m : PairMod) (name : String) : Prop where
  mem : m ∈ cfg.sums
  target : m.target = .sym name
  /-- `m` is the only pair sum writing `name`, and it is registered once -/
  unique : cfg.sums.filter (fun m' => decide (m'.target = .sym name)) = [m]
  /-- no particle cache writes `name` -/
  nocache : ∀ c ∈ cfg.caches, c.target ≠ .sym name
  /-- stage assignment (C06): a pair sum of the same stage reads nothing that pair sums of that stage write -/
  noRAW : ∀ m' ∈ cfg.sums, m'.stage = m.stage → ∀ n ∈ m'.reads,
    ∀ m'' ∈ cfg.sums, m''.stage = m.stage → m''.target ≠ .sym n

theorem SumOK.only {cfg : Config} {m : PairMod} {name : String} (h : SumOK cfg m name)
    {m' : PairMod} (hm' : m' ∈ cfg.sums) (ht : m'.target = .sym name) : m' = m := by
  have : m' ∈ cfg.sums.filter (fun m' => decide (m'.target = .sym name)) := by
    simp [List.mem_filter, hm', ht]
  rw [h.unique] at this
  simpa using this

theorem runStage_sum (m : PairMod) (name : String) (h : SumOK cfg m name)
    (st : State) (i : Nat) (hi : i < st.n) (hf : (st.ps i).frozen = false) :
    ((runStage cfg m.stage st).ps i).tag (.sym name)
      = (st.ps i).tag (.sym name)
        + pairForceOn cfg m (partPhase false (cfg.caches.filter (·.stage = m.stage)) st) i := by
  have hS : AgreeOff (fun key => ∃ c ∈ cfg.caches, key = c.target.key false) st
      (partPhase false (cfg.caches.filter (·.stage = m.stage)) st) :=
    partPhase_agree _ false _ (fun c hc => ⟨c, (List.mem_filter.mp hc).1, rfl⟩) st
  obtain ⟨_, hT⟩ := pairPhase_spec (fun key => ∃ m' ∈ cfg.sums, m'.stage = m.stage ∧ key = m'.target.key false)
    cfg false (cfg.sums.filter (·.stage = m.stage)) (partPhase false (cfg.caches.filter (·.stage = m.stage)) st)
    (fun m' hm' => ⟨m', (List.mem_filter.mp hm').1, by simpa using (List.mem_filter.mp hm').2, rfl⟩)
    (fun m' hm' n hn ⟨m'', hm'', hs'', hk⟩ =>
      h.noRAW m' (List.mem_filter.mp hm').1 (by simpa using (List.mem_filter.mp hm').2) n hn m'' hm'' hs''
        (Target.key_eq_sym.mp hk.symm))
  rw [runStage, hT, hS.tag i _ (fun ⟨c, hc, hk⟩ => h.nocache c hc (Target.key_eq_sym.mp hk.symm))]
  congr 1
  rw [vsum_map_congr _ _ (fun m' => if m'.target = .sym name then
        pairForceOn cfg m' (partPhase false (cfg.caches.filter (·.stage = m.stage)) st) i else 0) (fun m' _ => by
      rw [pairContrib_eq cfg false m' _ i _ (hS.n ▸ hi) ((hS.body i).frozen.trans hf)]
      simp only [eq_comm (a := Key.sym name), Target.key_eq_sym]),
    vsum_map_ite_filter, List.filter_filter]
  -- of the sums of this stage only `m` writes `name`
  have e : (fun a : PairMod => decide (a.target = Target.sym name) && decide (a.stage = m.stage))
      = (fun a : PairMod => decide (a.stage = m.stage) && decide (a.target = Target.sym name)) :=
    funext fun a => Bool.and_comm _ _
  rw [e, ← List.filter_filter, h.unique]
  simp

/-- C07, core: `runSymbols` adds to the pair-summed symbol of a free particle exactly the direct sum
over all partners, evaluated on `stageState`. -/
theorem runSymbols_sum (m : PairMod) (name : String) (h : SumOK cfg m name)
    (st : State) (i : Nat) (hi : i < st.n) (hf : (st.ps i).frozen = false) :
    ((runSymbols cfg st).ps i).tag (.sym name)
      = (st.ps i).tag (.sym name) + pairForceOn cfg m (stageState cfg m.stage st) i := by
  -- no round but that of `m.stage` writes `name`
  have keep : ∀ (l : List Nat), (∀ t ∈ l, t ≠ m.stage) → ∀ s : State,
      ((l.foldl (fun st t => runStage cfg t st) s).ps i).tag (.sym name) = (s.ps i).tag (.sym name) :=
    fun l hl s => foldl_runStage_keeps cfg name l (fun _ _ c hc _ => h.nocache c hc)
      (fun t ht m' hm' hs e => hl t ht (by rw [← hs, h.only hm' e])) s i
  have hp : Pres st ((List.range m.stage).foldl (fun st t => runStage cfg t st) st) :=
    Pres.foldl _ _ (fun s a _ => runStage_pres cfg a s) st
  rw [runSymbols, foldl_range_split _ _ m.stage (stage_le_maxStage cfg m h.mem),
    keep _ (fun t ht => by obtain ⟨x, _, rfl⟩ := List.mem_map.mp ht; omega),
    runStage_sum cfg m name h _ i (hp.lt hi) (hp.free hf),
    keep _ (fun t ht => Nat.ne_of_lt (List.mem_range.mp ht))]
  rfl

/-! ### integrators of user-defined quantities -/

theorem integ1P_sym (idx : Bool) (ig : Integrator) (p : Particle) (name : String) :
    (integ1P cfg idx ig p).tag (.sym name)
      = if ig = .euler p.colour name then p.tag (.sym name) + cfg.dt • p.tag (.force (.user name) idx)
        else p.tag (.sym name) := by
  cases ig with
  | vv c l m => simp only [integ1P, onColour]; split <;> simp [vvStep1]
  | euler c name' =>
    simp only [integ1P, onColour]
    by_cases hc : p.colour = c
    · by_cases hn : name' = name
      · subst hc; subst hn; simp [eulerStep1]
      · simp [hc, eulerStep1, hn, Ne.symm hn]
    · simp [hc, Ne.symm hc]

/-- once per `IntegratorScalar/Vector` registered for (the colour, `name`) -/
theorem integ1P_fold_sym (idx : Bool) (igs : List Integrator) (p : Particle) (name : String) :
    (igs.foldl (fun p ig => integ1P cfg idx ig p) p).tag (.sym name)
      = p.tag (.sym name) + ((igs.count (.euler p.colour name) : Nat) : Rat) • (cfg.dt • p.tag (.force (.user name) idx)) := by
  induction igs generalizing p with
  | nil => simp
  | cons ig igs ih =>
    rw [List.foldl_cons, ih, (integ1P_ident cfg idx ig p).1, integ1P_force, integ1P_sym, List.count_cons]
    by_cases h : ig = .euler p.colour name
    · rw [if_pos h, h, beq_self_eq_true, if_pos rfl, Vec3.add_assoc, Rat.natCast_add, Vec3.add_smul,
        Vec3.add_comm (_ • _)]
      congr 2
      exact Vec3.ext' (Rat.one_mul _).symm (Rat.one_mul _).symm (Rat.one_mul _).symm
    · have : (ig == Integrator.euler p.colour name) = false := by simpa using h
      rw [if_neg h, this]; simp

theorem step_pers_sym (hwf : cfg.wf = true) (st : State) (c : Nat) (n : String) :
    (step cfg st).pers c (.sym n) = st.pers c (.sym n) := by
  rw [step_eq, integ2_fold, mapFree_pers, setIdx_pers, (forces_agree cfg hwf _ _).pers, preState, preForce,
    (runSymbols_agree cfg hwf _).pers, clearParticleData, mapFree_pers, unprotect_fold_pers_sym, clearForce,
    mapFree_pers, integ1s_pers]

/-- One `step` for an integrated quantity: `s' = s + k * dt * F[idx]` where `k` is the number of
integrators registered for it (1 in every sensible input). -/
theorem step_euler (hwf : cfg.wf = true) (st : State) (i : Nat)
    (hf : (st.ps i).frozen = false) (name : String) (hnc : NotComputed cfg name)
    (hpers : st.pers (st.ps i).colour (.sym name) = true) :
    ((step cfg st).ps i).tag (.sym name) = (st.ps i).tag (.sym name)
      + ((cfg.integrators.count (.euler (st.ps i).colour name) : Nat) : Rat)
          • (cfg.dt • (st.ps i).tag (.force (.user name) st.forceIdx)) := by
  have h1 := integ1s_pres cfg st
  rw [step_tag, (forces_agree cfg hwf _ _).tag i _ not_isForceKey_sym, preState,
    preForce_tag cfg _ _ i (h1.free hf) _ (fun s => runSymbols_keeps cfg name hnc s i), unprotect_fold_pers_sym,
    integ1s_ps cfg st i hf, integ1P_fold_sym, (integ1P_fold_ident ..).1]
  have : (clearForce (!st.forceIdx) (cfg.integrators.foldl (integ1 cfg) st)).pers = st.pers := by
    rw [integ1_fold]; rfl
  rw [this, hpers]; rfl

end

end Sympler.Dyn
