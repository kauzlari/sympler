import Sympler.CellsLemmas

/-!
Lemmas about the per-step state machine of `Sympler/Cells.lean`: the particle loop, the sweep over the
active-cell list, `commitInjections`, one step of the initial assignment.
Core Lean only.
-/
namespace Sympler.Cells
open Sympler Sympler.Grid Sympler.Gen.CellTables

/-! equation lemmas by `rfl` with the big bodies sealed (unfolding `checkNewPosition` in a definitional
unfolding check makes `whnf` explode on the `Rat` comparisons) -/

attribute [local irreducible] checkNewPosition

theorem updateParticles_nil (S : Sys) (c k : Nat) (s : St) : updateParticles S c k [] s = .ok s := rfl

theorem updateParticles_cons (S : Sys) (c k p : Nat) (ps : List Nat) (s : St) :
    updateParticles S c k (p :: ps) s =
      match checkNewPosition S s c k p with
      | .ok s' => updateParticles S c k ps s'
      | .error e => .error e := rfl

theorem updateCell_eq (S : Sys) (k : Nat) (s : St) (c : Nat) :
    updateCell S k s c = updateParticles S c k (s.freeAt c k) s := rfl

attribute [local irreducible] updateCell

theorem sweepAux_none (S : Sys) (k fuel : Nat) (s : St) : sweepAux S k fuel none s = .ok s := by
  cases fuel <;> rfl

theorem sweepAux_succ (S : Sys) (k fuel i : Nat) (s : St) :
    sweepAux S k (fuel + 1) (some i) s =
      match updateCell S k s i with
      | .ok s' => sweepAux S k fuel (s.act.cl.next.get i) s'
      | .error e => .error e := rfl

theorem CheckOutcome.freeAt_eq {S : Sys} {s s' : St} {c k p : Nat} (h : CheckOutcome S s s' c k p) :
    (∀ c' k', s'.freeAt c' k' = s.freeAt c' k') ∨
    (∀ c' k', s'.freeAt c' k' = if c' = c ∧ k' = k then (s.freeAt c k).erase p else s.freeAt c' k') := by
  cases h with
  | stay h _ => left; intro c' k'; rw [h]
  | erased hfree => right; intro c' k'; simp only [St.freeAt, hfree, get_setAt]
  | moved t n ht hn hout outside hfree => right; intro c' k'; simp only [St.freeAt, hfree, get_setAt]

theorem CheckOutcome.mem_of_ne {S : Sys} {s s' : St} {c k p : Nat} (h : CheckOutcome S s s' c k p)
    {q : Nat} (hq : q ≠ p) (hm : q ∈ s.freeAt c k) : q ∈ s'.freeAt c k := by
  rcases h.freeAt_eq with e | e
  · rw [e]; exact hm
  · rw [e]; simp only [and_self, if_true]; exact (List.mem_erase_of_ne hq).mpr hm

theorem erase_erase_self {l : List Nat} (hn : l.Nodup) (c : Nat) : (l.erase c).erase c = l.erase c := by
  apply List.erase_of_not_mem
  intro hm
  exact ((List.Nodup.mem_erase_iff hn).mp hm).1 rfl

/-- an error the real code can raise too (`PARTICLEFLEWTOOFAR`), or the model's refusal of a grid with
several outlets in one direction -/
def Err.Allowed (G : Grid.Grid) (e : Err) : Prop :=
  (∃ k p, e = .flewTooFar k p) ∨ (e = .multiOutlet ∧ ¬ OutSingle G)

/-- induction principle for the particle loop of `Cell::updatePositions`; `Q` speaks of the particles still to be visited and
the state -/
theorem updateParticles_ind {S : Sys} (hG : GridOK S.G) {U UF : List (Nat × Nat)} (c k : Nat)
    (Q : List Nat → St → Prop)
    (step : ∀ s s' p ps, Inv S U UF s → p ∈ s.freeAt c k → p ∉ ps → (∀ q ∈ ps, q ∈ s.freeAt c k) →
      Q (p :: ps) s → CheckOutcome S s s' c k p → Inv S U UF s' → Q ps s') :
    ∀ (ps : List Nat) (s : St), Inv S U UF s → ps.Nodup → (∀ p ∈ ps, p ∈ s.freeAt c k) → Q ps s →
      ∀ r, updateParticles S c k ps s = r →
        match r with
        | .ok s' => Inv S U UF s' ∧ Q [] s' ∧ (∀ L, s.act.cl.Repr L → s'.act.cl.Repr L ∨ s'.act.cl.Repr (L.erase c))
        | .error e => Err.Allowed S.G e := by
  intro ps
  induction ps with
  | nil =>
    intro s h _ _ hQ r e
    rw [updateParticles_nil] at e
    subst e
    exact ⟨h, hQ, fun L hL => Or.inl hL⟩
  | cons p ps ih =>
    intro s h hn hmem hQ r e
    have hp : p ∈ s.freeAt c k := hmem p (by simp)
    have hpn : p ∉ ps := (List.nodup_cons.mp hn).1
    rw [updateParticles_cons] at e
    rcases checkNewPosition_inv hG h hp with ⟨s1, e1, inv1, out1, r1⟩ | e1 | ⟨e1, hns⟩
    · rw [e1] at e
      have hmem1 : ∀ q ∈ ps, q ∈ s1.freeAt c k := fun q hq =>
        out1.mem_of_ne (fun e => hpn (e ▸ hq)) (hmem q (by simp [hq]))
      have hQ1 := step s s1 p ps h hp hpn (fun q hq => hmem q (by simp [hq])) hQ out1 inv1
      have := ih s1 inv1 (List.nodup_cons.mp hn).2 hmem1 hQ1 r e
      cases r with
      | error err => exact this
      | ok s' =>
        obtain ⟨inv2, hQ2, r2⟩ := this
        refine ⟨inv2, hQ2, fun L hL => ?_⟩
        rcases r1 L hL with h1 | h1
        · exact r2 L h1
        · rcases r2 _ h1 with h2 | h2
          · exact Or.inr h2
          · rw [erase_erase_self hL.nodup] at h2; exact Or.inr h2
    · rw [e1] at e; subst e; exact Or.inl ⟨k, p, rfl⟩
    · rw [e1] at e; subst e; exact Or.inr ⟨rfl, hns⟩

theorem updateCell_spec {S : Sys} (hG : GridOK S.G) {U UF : List (Nat × Nat)} {k : Nat} {s : St} {c : Nat}
    (h : Inv S U UF s) : ∀ r, updateCell S k s c = r →
      match r with
      | .ok s' => Inv S U UF s' ∧ ∀ L, s.act.cl.Repr L → s'.act.cl.Repr L ∨ s'.act.cl.Repr (L.erase c)
      | .error e => Err.Allowed S.G e := by
  intro r e
  rw [updateCell_eq] at e
  have := updateParticles_ind hG c k (fun _ _ => True) (fun _ _ _ _ _ _ _ _ _ _ _ => trivial)
    (s.freeAt c k) s h (h.free_nodup c k) (fun p hp => hp) trivial r e
  cases r with
  | ok s' => exact ⟨this.1, this.2.2⟩
  | error err => exact this

/-- the sweep of `ManagerCell::invalidatePositions` as a plain loop over a list of cells -/
def sweepList (S : Sys) (k : Nat) : List Nat → St → Except Err St
  | [], s => .ok s
  | c :: cs, s =>
    match updateCell S k s c with
    | .ok s' => sweepList S k cs s'
    | .error e => .error e

theorem sweepList_cons (S : Sys) (k c : Nat) (cs : List Nat) (s : St) :
    sweepList S k (c :: cs) s =
      match updateCell S k s c with
      | .ok s' => sweepList S k cs s'
      | .error e => .error e := rfl

/-- **The pointer-chasing sweep visits exactly the cells that were active at its start, each once, in
list order** — although a cell may remove itself from the list while it is being visited
(`next` is saved before the body): with enough fuel `sweepAux` from the head of a suffix `Sfx` of the
represented list equals the plain loop over `Sfx`. -/
theorem sweepAux_eq_sweepList {S : Sys} (hG : GridOK S.G) {U UF : List (Nat × Nat)} (k : Nat) :
    ∀ (Sfx P : List Nat) (fuel : Nat) (s : St), Inv S U UF s → s.act.cl.Repr (P ++ Sfx) →
      Sfx.length ≤ fuel → sweepAux S k fuel Sfx.head? s = sweepList S k Sfx s := by
  intro Sfx
  induction Sfx with
  | nil => intro P fuel s _ _ _; rw [List.head?_nil, sweepAux_none]; rfl
  | cons c Sfx ih =>
    intro P fuel s h hR hf
    obtain ⟨fuel', rfl⟩ : ∃ f, fuel = f + 1 := ⟨fuel - 1, by simp at hf; omega⟩
    rw [List.head?_cons, sweepAux_succ, sweepList_cons]
    rw [hR.split.1]
    cases e : updateCell S k s c with
    | error err => rfl
    | ok s1 =>
      simp only
      obtain ⟨inv1, r1⟩ := updateCell_spec hG h _ e
      have hcP : c ∉ P := by
        have := hR.nodup
        rw [List.nodup_append] at this
        intro hm
        exact this.2.2 c hm c (by simp) rfl
      rcases r1 _ hR with h1 | h1
      · exact ih (P ++ [c]) fuel' s1 inv1 (by simpa using h1) (by simp at hf; omega)
      · have : (P ++ c :: Sfx).erase c = P ++ Sfx := by
          rw [List.erase_append_right _ hcP]; simp
        rw [this] at h1
        exact ih P fuel' s1 inv1 h1 (by simp at hf; omega)

theorem sweep_eq_sweepList {S : Sys} (hG : GridOK S.G) {U UF : List (Nat × Nat)} (k : Nat) {s : St}
    (h : Inv S U UF s) {L : List Nat} (hL : s.act.cl.Repr L) : sweep S k s = sweepList S k L s := by
  unfold sweep
  rw [hL.first, ← List.head?_eq_getElem?]
  exact sweepAux_eq_sweepList hG k L [] _ s h (by simpa using hL) (by rw [hL.count]; exact Nat.le_refl _)

theorem updateCell_inv {S : Sys} (hG : GridOK S.G) {U UF : List (Nat × Nat)} {k : Nat} {s s' : St} {c : Nat}
    (h : Inv S U UF s) (e : updateCell S k s c = .ok s') : Inv S U UF s' :=
  (updateCell_spec hG h _ e).1

theorem sweepList_ind {S : Sys} (hG : GridOK S.G) {U UF : List (Nat × Nat)} (k : Nat)
    (R : List Nat → St → Prop)
    (step : ∀ s s' c cs, Inv S U UF s → R (c :: cs) s → updateCell S k s c = .ok s' → R cs s') :
    ∀ (cs : List Nat) (s : St), Inv S U UF s → R cs s → ∀ r, sweepList S k cs s = r →
      match r with
      | .ok s' => Inv S U UF s' ∧ R [] s'
      | .error e => Err.Allowed S.G e := by
  intro cs
  induction cs with
  | nil =>
    intro s h hR r e
    subst e; exact ⟨h, hR⟩
  | cons c cs ih =>
    intro s h hR r e
    rw [sweepList_cons] at e
    cases e1 : updateCell S k s c with
    | error err =>
      rw [e1] at e; subst e
      exact updateCell_spec hG h _ e1
    | ok s1 =>
      rw [e1] at e
      exact ih s1 (updateCell_inv hG h e1) (step s s1 c cs h hR e1) r e

theorem sweep_inv {S : Sys} (hG : GridOK S.G) {U UF : List (Nat × Nat)} {k : Nat} {s s' : St}
    (h : Inv S U UF s) (e : sweep S k s = .ok s') : Inv S U UF s' := by
  obtain ⟨L, hL, _⟩ := h.book.act
  rw [sweep_eq_sweepList hG k h hL.cl] at e
  exact (sweepList_ind hG k (fun _ _ => True) (fun _ _ _ _ _ _ _ => trivial) L s h trivial _ e).1

theorem commitAll_inv {S : Sys} (hG : GridOK S.G) {U UF : List (Nat × Nat)} {s : St} (h : Inv S U UF s) :
    ∃ s', commitAll S s = .ok s' ∧ Inv S U UF s' ∧
      (∀ c k, s'.freeAt c k = s.freeAt c k ++ s.injAt c k) ∧ (∀ c k, s'.injAt c k = []) ∧
      s'.frozen = s.frozen ∧ s'.pos = s.pos ∧ s'.fpos = s.fpos ∧ s'.erased = s.erased := by
  obtain ⟨s', e, b, cm⟩ := commitAll_book hG h.book
  have f' : ∀ c k, s'.freeAt c k = s.freeAt c k ++ s.injAt c k ∧ s'.injAt c k = [] := by
    intro c k
    by_cases hck : c < S.nCells ∧ k < S.nCol
    · exact cm.done c k hck
    · obtain ⟨a, b⟩ := cm.rest c k hck
      rw [a, b, (h.supp c k hck).2.1]
      exact ⟨(List.append_nil _).symm, rfl⟩
  refine ⟨s', e, ⟨b, ?_, ?_, ?_⟩, fun c k => (f' c k).1, fun c k => (f' c k).2, cm.frozen, cm.pos, cm.fpos, cm.erased⟩
  · intro k p'
    rw [cm.erased, ← h.occ k p']
    apply occ_congr
    intro c _
    rw [(f' c k).1, (f' c k).2]; simp [List.count_append]
  · intro k p'; exact (focc_congr cm.frozen k p').trans (h.focc k p')
  · intro c k hn
    obtain ⟨a1, a2, a3⟩ := h.supp c k hn
    refine ⟨by rw [(f' c k).1, a1, a2]; rfl, (f' c k).2, ?_⟩
    simp only [St.frozenAt, cm.frozen]; exact a3

theorem setPositions_frame (k : Nat) : ∀ (ms : List (Nat × V3 Rat)) (s : St),
    (setPositions k ms s).free = s.free ∧ (setPositions k ms s).frozen = s.frozen ∧
    (setPositions k ms s).inj = s.inj ∧ (setPositions k ms s).nPart = s.nPart ∧
    (setPositions k ms s).act = s.act ∧ (setPositions k ms s).fpos = s.fpos ∧
    (setPositions k ms s).erased = s.erased ∧
    (∀ k' p, k' ≠ k → (setPositions k ms s).posAt k' p = s.posAt k' p) := by
  intro ms
  induction ms with
  | nil => intro s; exact ⟨rfl, rfl, rfl, rfl, rfl, rfl, rfl, fun _ _ _ => rfl⟩
  | cons m ms ih =>
    intro s
    obtain ⟨p, r⟩ := m
    simp only [setPositions]
    obtain ⟨a1, a2, a3, a4, a5, a6, a7, a8⟩ := ih ({ s with pos := setAt s.pos k p r })
    refine ⟨a1, a2, a3, a4, a5, a6, a7, ?_⟩
    intro k' p' hk
    rw [a8 k' p' hk]
    simp [St.posAt, get_setAt, hk]

theorem setPositions_inv {S : Sys} {U UF : List (Nat × Nat)} (k : Nat) (ms : List (Nat × V3 Rat)) {s : St}
    (h : Inv S U UF s) : Inv S U UF (setPositions k ms s) := by
  obtain ⟨a1, a2, a3, a4, a5, a6, a7, _⟩ := setPositions_frame k ms s
  have hf : ∀ c k', (setPositions k ms s).freeAt c k' = s.freeAt c k' := by
    intro c k'; simp only [St.freeAt, a1]
  have hi : ∀ c k', (setPositions k ms s).injAt c k' = s.injAt c k' := by
    intro c k'; simp only [St.injAt, a3]
  have hz : ∀ c k', (setPositions k ms s).frozenAt c k' = s.frozenAt c k' := by
    intro c k'; simp only [St.frozenAt, a2]
  refine ⟨⟨?_, ?_⟩, ?_, ?_, ?_⟩
  · rw [a5, a4]; exact h.book.act
  · intro c; rw [a4, h.book.npart c]; unfold cellCount; simp only [hf, hz]
  · intro k' p; rw [a7, ← h.occ k' p]; unfold occ; simp only [hf, hi]
  · intro k' p; exact (focc_congr a2 k' p).trans (h.focc k' p)
  · intro c k' hn; rw [hf, hi, hz]; exact h.supp c k' hn

/-- one integrator's `integrateStep1`: new positions, sweep, commit -/
theorem moveColour_inv {S : Sys} (hG : GridOK S.G) {U UF : List (Nat × Nat)} {k : Nat}
    {ms : List (Nat × V3 Rat)} {s s' : St} (h : Inv S U UF s) (e : moveColour S k ms s = .ok s') :
    Inv S U UF s' ∧ ∀ c k', s'.injAt c k' = [] := by
  unfold moveColour invalidatePositions at e
  cases e1 : sweep S k (setPositions k ms s) with
  | error err => rw [e1] at e; simp at e
  | ok s1 =>
    rw [e1] at e
    simp only at e
    have inv1 := sweep_inv hG (setPositions_inv k ms h) e1
    obtain ⟨s2, e2, inv2, _, j2, _⟩ := commitAll_inv hG inv1
    rw [e2] at e
    have : s2 = s' := Except.ok.inj e
    subst this
    exact ⟨inv2, j2⟩

/-! ### the initial assignment -/

theorem findCell_lt {G : Grid.Grid} {eps : Rat} {r : V3 Rat} {c : Nat} (h : findCell G eps r = some c) :
    c < G.cells.size ∧
      isInsideEps (G.cells.getD c default).c1 (G.cells.getD c default).c2 r eps = true := by
  unfold findCell at h
  split at h
  · simp only at h
    split at h
    · rename_i cg hcg
      split at h
      · rename_i hin
        have hc := Option.some.inj h
        subst hc
        obtain ⟨hlt, hget⟩ := Array.getElem?_eq_some_iff.mp hcg
        refine ⟨hlt, ?_⟩
        simp only [Array.getD_eq_getD_getElem?, hcg, Option.getD_some]
        exact hin
      · simp at h
    · simp at h
  · simp at h

theorem injectFree_inv {S : Sys} {U UF : List (Nat × Nat)} {s : St} (h : Inv S U UF s) {c k p : Nat}
    (hc : c < S.nCells) (hk : k < S.nCol) (hU : (k, p) ∉ U) (hE : s.erased = []) (r : V3 Rat) :
    Inv S ((k, p) :: U) UF (injectFree { s with pos := setAt s.pos k p r } c k p) := by
  obtain ⟨j1, j2⟩ := occ_after_inject (S := S) ({ s with pos := setAt s.pos k p r } : St) k p hc
  have occpos : ∀ k' p', occ S ({ s with pos := setAt s.pos k p r } : St) k' p' = occ S s k' p' := fun _ _ => rfl
  refine ⟨injectFree_book (setPos_book h.book _) c k p, ?_, h.focc, ?_⟩
  · intro k' p'
    show _ = if (k', p') ∈ (k, p) :: U ∧ (k', p') ∉ s.erased then 1 else 0
    by_cases hkp : (k', p') = (k, p)
    · obtain ⟨rfl, rfl⟩ := Prod.mk.inj hkp
      rw [j2, occpos, h.occ k' p']
      simp [hU, hE]
    · rw [j1 k' p' hkp, occpos, h.occ k' p']
      simp [hkp]
  · intro c' k' hn
    obtain ⟨a1, a2, a3⟩ := h.supp c' k' hn
    refine ⟨a1, ?_, a3⟩
    simp only [St.injAt, injectFree, get_setAt]
    split
    · rename_i hck; obtain ⟨rfl, rfl⟩ := hck; exact absurd ⟨hc, hk⟩ hn
    · exact a2

theorem injectFrozen_inv {S : Sys} (hG : GridOK S.G) {U UF : List (Nat × Nat)} {s : St} (h : Inv S U UF s)
    {c k p : Nat} (hc : c < S.nCells) (hk : k < S.nCol) (hUF : (k, p) ∉ UF) :
    ∃ s', injectFrozen S s c k p = .ok s' ∧ Inv S U ((k, p) :: UF) s' ∧ s'.erased = s.erased ∧
      s'.free = s.free ∧ s'.inj = s.inj ∧ s'.pos = s.pos ∧ s'.fpos = s.fpos ∧
      s'.frozen = setAt s.frozen c k (s.frozenAt c k ++ [p]) := by
  obtain ⟨s1, hs1⟩ : ∃ s1 : St, s1 = { s with frozen := setAt s.frozen c k (s.frozenAt c k ++ [p]) } := ⟨_, rfl⟩
  have hcnt := cellCount_replace (S := S) (s := s) (s1 := s1) (c := c) hk
    (fun c' k' hne => by simp only [hs1, St.freeAt, St.frozenAt, get_setAt, hne, if_false])
  have hz : s1.frozenAt c k = s.frozenAt c k ++ [p] := by simp only [hs1, St.frozenAt, get_setAt, and_self, if_true]
  have hf : s1.freeAt c k = s.freeAt c k := by rw [hs1]; rfl
  rw [hz, hf, List.length_append, List.length_singleton] at hcnt
  obtain ⟨s', a', e, hs', b⟩ := grow_book hG h.book (s1 := s1) (np := 1) hc (by rw [hs1]) (by rw [hs1])
    ⟨hcnt.1, by omega⟩ (p := s1.nPart.get c = 0) (by simp)
  subst hs' hs1
  refine ⟨_, e, ⟨b, h.occ, fun k' p' => ?_, fun c' k' hn => ?_⟩, rfl, rfl, rfl, rfl, rfl, rfl⟩
  · rw [focc_after_inject (s := s) hc rfl k' p', h.focc k' p']
    by_cases hkp : (k', p') = (k, p)
    · rw [hkp]; simp [hUF]
    · simp [hkp]
  · obtain ⟨a1, a2, a3⟩ := h.supp c' k' hn
    exact ⟨a1, a2, (supp_setAt hc hk _ hn).trans a3⟩

theorem inv_init (S : Sys) : Inv S [] [] St.init := by
  refine ⟨book_init S, fun k p => ?_, fun k p => ?_, ?_⟩
  · simp only [List.not_mem_nil, false_and, if_false]
    exact sum_map_range_zero _ _ fun c _ => by simp [St.init, St.freeAt, St.injAt]
  · simp only [List.not_mem_nil, if_false]
    exact sum_map_range_zero _ _ fun c _ => by simp [St.init, St.frozenAt]
  · intro c k _; simp [St.init, St.freeAt, St.injAt, St.frozenAt]

end Sympler.Cells
