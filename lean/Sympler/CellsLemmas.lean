import Sympler.Cells
import Sympler.GridLemmas

/-!
Lemmas about the dynamic cell model (`Sympler/Cells.lean`): the intrusive doubly linked lists
represent duplicate-free lists (`DLL.Repr`), link counters and active-link list (`LinkInv`),
`Cell::activate/deactivate` (`ActInv`), and the bookkeeping invariant of the whole state machine
(`Inv`).  The property theorems of C09 (`Props/C09.lean`) are assembled from these.  Core Lean only.

The invariants of C09 by number: (1) every particle is registered exactly once (`Inv.occ`, `Inv.focc`); (2) `m_n_particles` counts
the particles of the cell (`Book.npart`); (3) the active-cell list holds exactly the cells with `m_n_particles > 0` (`Book.act`);
(4) link counters and active-link list (`ActInv.cnt`, `LinkInv`); (5) every particle lies in its cell (`PosOK`).
-/
namespace Sympler.Cells
open Sympler Sympler.Grid Sympler.Gen.CellTables

/-! ### sums over `0..n−1`, nested stores -/

theorem get_setAt {α : Type} (s : Store (Store α)) (c k : Nat) (v : α) (c' k' : Nat) :
    ((setAt s c k v).get c').get k' = if c' = c ∧ k' = k then v else (s.get c').get k' := by
  unfold setAt
  rw [Store.get_set]
  by_cases hc : c' = c
  · subst hc
    simp only [if_true, true_and, Store.get_set]
  · simp [hc]

theorem count_concat (X : List Nat) (l v : Nat) : (X ++ [v]).count l = X.count l + (if l = v then 1 else 0) := by
  rw [List.count_append, List.count_singleton]
  by_cases h : l = v
  · subst h; simp
  · have : ¬ (v == l) = true := by simpa using fun e => h e.symm
    simp [h, this]

theorem sum_map_range_congr (f g : Nat → Nat) (n : Nat) (h : ∀ j, j < n → g j = f j) :
    ((List.range n).map g).sum = ((List.range n).map f).sum := by
  congr 1
  apply List.map_congr_left
  intro j hj; exact h j (List.mem_range.mp hj)

theorem sum_map_range_zero (f : Nat → Nat) (n : Nat) (h : ∀ j, j < n → f j = 0) : ((List.range n).map f).sum = 0 := by
  rw [sum_map_range_congr (fun _ => 0) f n h]
  clear h
  induction n with
  | zero => rfl
  | succ n ih => rw [List.range_succ]; simp [ih]

theorem sum_map_range_replace (f g : Nat → Nat) (n k : Nat) (hk : k < n) (hne : ∀ j, j ≠ k → g j = f j) :
    ((List.range n).map g).sum + f k = ((List.range n).map f).sum + g k := by
  induction n with
  | zero => omega
  | succ m ih =>
    rw [List.range_succ, List.map_append, List.map_append, List.sum_append, List.sum_append]
    simp only [List.map_cons, List.map_nil, List.sum_cons, List.sum_nil, Nat.add_zero]
    by_cases hkm : k = m
    · subst hkm
      rw [sum_map_range_congr f g k fun j hj => hne j (by omega)]; omega
    · rw [hne m (fun e => hkm e.symm)]
      have := ih (by omega); omega

theorem sum_map_range_update (f g : Nat → Nat) (n k d : Nat) (hk : k < n)
    (hne : ∀ j, j ≠ k → g j = f j) (hkk : g k = f k + d) :
    ((List.range n).map g).sum = ((List.range n).map f).sum + d := by
  have := sum_map_range_replace f g n k hk hne; omega

theorem term_le_sum (f : Nat → Nat) (n c : Nat) (hc : c < n) : f c ≤ ((List.range n).map f).sum := by
  have := sum_map_range_update (fun j => if j = c then 0 else f j) f n c (f c) hc
    (by intro j hj; simp [hj]) (by simp)
  omega

theorem two_terms_le_sum (f : Nat → Nat) (n : Nat) {c c' : Nat} (hc : c < n) (hc' : c' < n) (hne : c' ≠ c) :
    f c + f c' ≤ ((List.range n).map f).sum := by
  have h1 := sum_map_range_replace (fun j => if j = c then 0 else f j) f n c hc (fun j hj => by simp [hj])
  have h2 := term_le_sum (fun j => if j = c then 0 else f j) n c' hc'
  simp only [hne, if_false, if_true] at h1 h2
  omega

theorem sum_map_add (l : List Nat) (f g : Nat → Nat) :
    (l.map fun k => f k + g k).sum = (l.map f).sum + (l.map g).sum := by
  induction l with
  | nil => rfl
  | cons a r ih => simp only [List.map_cons, List.sum_cons, ih]; omega

theorem sum_pos_iff (f : Nat → Nat) (n : Nat) :
    0 < ((List.range n).map f).sum ↔ ∃ j, j < n ∧ 0 < f j := by
  refine ⟨fun hp => Classical.byContradiction fun hn => ?_, fun ⟨j, hj, hf⟩ => Nat.lt_of_lt_of_le hf (term_le_sum f n j hj)⟩
  rw [sum_map_range_zero f n fun j hj => Nat.eq_zero_of_not_pos fun h0 => hn ⟨j, hj, h0⟩] at hp
  exact absurd hp (by decide)

/-! ### the intrusive lists -/

namespace DLL

/-- `d` represents the list `l` (iteration order from `first`) -/
structure Repr (d : DLL) (l : List Nat) : Prop where
  nodup : l.Nodup
  first : d.first = l[0]?
  link : ∀ i x, l[i]? = some x →
    d.next.get x = l[i+1]? ∧ d.prev.get x = (if i = 0 then none else l[i-1]?)
  out : ∀ x, x ∉ l → d.next.get x = none ∧ d.prev.get x = none
  count : d.count = l.length

theorem Repr.split {d : DLL} {P S : List Nat} {x : Nat} (h : Repr d (P ++ x :: S)) :
    d.next.get x = S.head? ∧ d.prev.get x = P.getLast? := by
  obtain ⟨h1, h2⟩ := h.link P.length x (by simp)
  refine ⟨by rw [h1]; simp [List.getElem?_append_right, List.head?_eq_getElem?], ?_⟩
  rw [h2]
  rcases List.eq_nil_or_concat P with rfl | ⟨Q, y, rfl⟩
  · rfl
  · simp

theorem Repr.of_split {d : DLL} {l : List Nat} (hn : l.Nodup) (hf : d.first = l.head?)
    (hs : ∀ P x S, l = P ++ x :: S → d.next.get x = S.head? ∧ d.prev.get x = P.getLast?)
    (ho : ∀ x, x ∉ l → d.next.get x = none ∧ d.prev.get x = none) (hc : d.count = l.length) : Repr d l := by
  refine ⟨hn, by rw [hf, List.head?_eq_getElem?], fun i x hi => ?_, ho, hc⟩
  obtain ⟨hlt, rfl⟩ := List.getElem?_eq_some_iff.mp hi
  obtain ⟨e1, e2⟩ := hs (l.take i) l[i] (l.drop (i + 1)) (by rw [← List.drop_eq_getElem_cons hlt, List.take_append_drop])
  rw [e1, e2, List.head?_drop, List.getLast?_take]
  refine ⟨rfl, ?_⟩
  split
  · rfl
  · rw [List.getElem?_eq_getElem (by omega)]; rfl

theorem repr_empty : Repr DLL.empty [] := by
  constructor <;> simp [DLL.empty]

theorem repr_pushFront {d : DLL} {l : List Nat} (h : Repr d l) {c : Nat} (hc : c ∉ l) :
    Repr (d.pushFront c) (c :: l) := by
  have hf : d.first = l.head? := by rw [h.first, List.head?_eq_getElem?]
  refine Repr.of_split (List.nodup_cons.mpr ⟨hc, h.nodup⟩) rfl (fun P x S hl => ?_) (fun x hx => ?_)
    (by simp [pushFront, h.count])
  · cases P with
    | nil =>
      obtain ⟨rfl, rfl⟩ := List.cons.inj hl
      simp [pushFront, hf]
    | cons a P' =>
      rw [List.cons_append, List.cons.injEq] at hl
      obtain ⟨rfl, rfl⟩ := hl
      obtain ⟨h1, h2⟩ := h.split
      have hxc : x ≠ c := fun e => hc (e ▸ by simp)
      -- `x->prev` changes only for the old head, which now follows `c`
      cases P' with
      | nil => simp [pushFront, hf, Store.get_set_ne _ _ hxc, h1]
      | cons b P'' =>
        have hxb : x ≠ b := fun e => by
          have := h.nodup; rw [e] at this; simp [List.nodup_cons] at this
        simp [pushFront, hf, Store.get_set_ne _ _ hxc, Store.get_set_ne _ _ hxb, h1, h2]
  · simp only [List.mem_cons, not_or] at hx
    obtain ⟨o1, o2⟩ := h.out x hx.2
    simp only [pushFront, Store.get_set_ne _ _ hx.1, o1, true_and]
    cases hfd : d.first with
    | none => exact o2
    | some f =>
      have : x ≠ f := fun e => hx.2 (e ▸ List.mem_of_mem_head? (hf ▸ hfd))
      simp only [Store.get_set_ne _ _ this, o2]


theorem repr_remove {d : DLL} {l : List Nat} (h : Repr d l) {c : Nat} (hc : c ∈ l) :
    Repr (d.remove c) (l.erase c) := by
  obtain ⟨P, S, rfl⟩ := List.append_of_mem hc
  obtain ⟨nP, nS, hPS⟩ := List.nodup_append.mp h.nodup
  obtain ⟨hcS, nS⟩ := List.nodup_cons.mp nS
  have hcP : c ∉ P := fun hm => hPS c hm c List.mem_cons_self rfl
  have hPS' : ∀ a ∈ P, ∀ b ∈ S, a ≠ b := fun a ha b hb => hPS a ha b (List.mem_cons_of_mem _ hb)
  obtain ⟨hcn, hcp⟩ := h.split
  have hf : d.first = (P ++ c :: S).head? := by rw [h.first, List.head?_eq_getElem?]
  rw [List.erase_append_right _ hcP, List.erase_cons_head]
  have inS : ∀ as x S', S = as ++ x :: S' →
      (d.remove c).next.get x = S'.head? ∧ (d.remove c).prev.get x = (P ++ as).getLast? := by
    rintro as x S' rfl
    obtain ⟨h1, h2⟩ := (show Repr d ((P ++ c :: as) ++ x :: S') by simpa using h).split
    have hxS : x ∈ as ++ x :: S' := by simp
    have hxc : x ≠ c := fun e => hcS (e ▸ hxS)
    refine ⟨?_, ?_⟩
    · simp only [remove, hcp, Store.get_set_ne _ _ hxc]
      cases hp : P.getLast? with
      | none => exact h1
      | some p =>
        have : x ≠ p := fun e => hPS' p (List.mem_of_getLast? hp) x hxS e.symm
        simp only [Store.get_set_ne _ _ this]; exact h1
    · simp only [remove, hcn, hcp, Store.get_set_ne _ _ hxc]
      cases as with
      | nil => simp
      | cons b as' =>
        have hxb : x ≠ b := fun e => by rw [e] at nS; simp [List.nodup_cons] at nS
        simp [Store.get_set_ne _ _ hxb, h2]
  have inP : ∀ P' x cs, P = P' ++ x :: cs →
      (d.remove c).next.get x = (cs ++ S).head? ∧ (d.remove c).prev.get x = P'.getLast? := by
    rintro P' x cs rfl
    obtain ⟨h1, h2⟩ := (show Repr d (P' ++ x :: (cs ++ c :: S)) by simpa using h).split
    have hxP : x ∈ P' ++ x :: cs := by simp
    have hxc : x ≠ c := fun e => hcP (e ▸ hxP)
    refine ⟨?_, ?_⟩
    · simp only [remove, hcp, Store.get_set_ne _ _ hxc]
      cases cs with
      | nil => simp [hcn]
      | cons b cs' =>
        have hx : x ∉ b :: cs' := (List.nodup_cons.mp (List.nodup_append.mp nP).2.1).1
        have hl : (P' ++ x :: b :: cs').getLast? = (b :: cs').getLast? := by simp [List.getLast?_cons]
        rw [hl]
        cases hp : (b :: cs').getLast? with
        | none => simp at hp
        | some p =>
          have : x ≠ p := fun e => hx (e ▸ List.mem_of_getLast? hp)
          simp [Store.get_set_ne _ _ this, h1]
    · simp only [remove, hcn, Store.get_set_ne _ _ hxc]
      cases hs : S.head? with
      | none => exact h2
      | some n =>
        have : x ≠ n := fun e => hPS' x hxP n (List.mem_of_mem_head? hs) e
        simp only [Store.get_set_ne _ _ this]; exact h2
  refine Repr.of_split (List.nodup_append.mpr ⟨nP, nS, hPS'⟩) ?_ (fun P' x S' hl => ?_) (fun x hx => ?_)
    (by simp [remove, h.count])
  · simp only [remove, hcn, hcp]
    cases P with
    | nil => rfl
    | cons a P' => simp [List.getLast?_cons, hf]
  · rcases List.append_eq_append_iff.mp hl with ⟨as, rfl, e⟩ | ⟨cs, rfl, e⟩
    · exact inS as x S' e
    · cases cs with
      | nil => simpa using inS [] x S' e.symm
      | cons y cs' =>
        obtain ⟨rfl, rfl⟩ := List.cons.inj e
        exact inP P' x cs' rfl
  · by_cases hxc : x = c
    · subst hxc; simp [remove]
    · obtain ⟨o1, o2⟩ := h.out x (by simpa [hxc] using hx)
      have hxP : x ∉ P := fun hm => hx (List.mem_append_left _ hm)
      have hxS : x ∉ S := fun hm => hx (List.mem_append_right _ hm)
      refine ⟨?_, ?_⟩
      · simp only [remove, hcp, Store.get_set_ne _ _ hxc]
        cases hp : P.getLast? with
        | none => exact o1
        | some p =>
          have : x ≠ p := fun e => hxP (e ▸ List.mem_of_getLast? hp)
          simp only [Store.get_set_ne _ _ this]; exact o1
      · simp only [remove, hcn, Store.get_set_ne _ _ hxc]
        cases hs : S.head? with
        | none => exact o2
        | some n =>
          have : x ≠ n := fun e => hxS (e ▸ List.mem_of_mem_head? hs)
          simp only [Store.get_set_ne _ _ this]; exact o2

theorem walk_suffix {d : DLL} {l : List Nat} (h : Repr d l) :
    ∀ (S P : List Nat), l = P ++ S → DLL.walk d.next S.length S.head? = S := by
  intro S
  induction S with
  | nil => intro P _; simp [DLL.walk]
  | cons c S ih =>
    intro P hl
    subst hl
    simp only [List.length_cons, List.head?_cons, DLL.walk]
    rw [h.split.1]
    rw [ih (P ++ [c]) (by simp)]

theorem repr_toList {d : DLL} {l : List Nat} (h : Repr d l) : d.toList = l := by
  unfold DLL.toList
  rw [h.count, h.first]
  have := walk_suffix h l [] rfl
  rwa [List.head?_eq_getElem?] at this

theorem repr_unique {d : DLL} {l l' : List Nat} (h : Repr d l) (h' : Repr d l') : l = l' := by
  rw [← repr_toList h, ← repr_toList h']

end DLL

/-! ### link counters and the active-link list -/

/-- the active-link list holds exactly the links whose counter is 2 -/
structure LinkInv (a : ActSt) (LL : List Nat) : Prop where
  ll : a.ll.Repr LL
  iff : ∀ l, l ∈ LL ↔ a.lcnt.get l = 2

theorem LinkInv.keep {a : ActSt} {LL : List Nat} (h : LinkInv a LL) {l : Nat} {n : Int} (hl : a.lcnt.get l ≠ 2)
    (hn : n ≠ 2) : LinkInv { a with lcnt := a.lcnt.set l n } LL := by
  refine ⟨h.ll, fun x => ?_⟩
  rw [h.iff x]
  simp only [Store.get_set]
  split
  · rename_i e; subst e; exact ⟨fun e => absurd e hl, fun e => absurd e hn⟩
  · exact Iff.rfl

theorem LinkInv.push {a : ActSt} {LL : List Nat} (h : LinkInv a LL) {l : Nat} {n : Int} (hl : a.lcnt.get l ≠ 2)
    (hn : n = 2) : LinkInv { a with lcnt := a.lcnt.set l n, ll := a.ll.pushFront l } (l :: LL) := by
  subst hn
  refine ⟨DLL.repr_pushFront h.ll fun hm => hl ((h.iff l).mp hm), fun x => ?_⟩
  rw [List.mem_cons, h.iff x]
  simp only [Store.get_set]
  split
  · rename_i e; simp [e]
  · rename_i e; simp [e]

theorem LinkInv.remove {a : ActSt} {LL : List Nat} (h : LinkInv a LL) {l : Nat} {n : Int} (hl : a.lcnt.get l = 2)
    (hn : n ≠ 2) : LinkInv { a with lcnt := a.lcnt.set l n, ll := a.ll.remove l } (LL.erase l) := by
  refine ⟨DLL.repr_remove h.ll ((h.iff l).mpr hl), fun x => ?_⟩
  rw [List.Nodup.mem_erase_iff h.ll.nodup, h.iff x]
  simp only [Store.get_set]
  split
  · rename_i e; simp [e, hn]
  · rename_i e; simp [e]

theorem get_set_add (s : Store Int) (l : Nat) (δ : Int) (x : Nat) :
    (s.set l (s.get l + δ)).get x = s.get x + (if x = l then δ else 0) := by
  rw [Store.get_set]
  split
  · rename_i e; rw [e]
  · rw [Int.add_zero]

theorem cellActivated_ok {a : ActSt} {LL : List Nat} {l : Nat} (h : LinkInv a LL)
    (h0 : 0 ≤ a.lcnt.get l + 1) (h2 : a.lcnt.get l + 1 ≤ 2) :
    ∃ a' LL', cellActivated a l = .ok a' ∧ LinkInv a' LL' ∧ a'.cl = a.cl ∧
      ∀ x, a'.lcnt.get x = a.lcnt.get x + (if x = l then 1 else 0) := by
  unfold cellActivated
  simp only [h0, h2, and_self, if_true]
  by_cases h1 : a.lcnt.get l + 1 = 2
  · rw [if_pos h1]
    exact ⟨_, _, rfl, h.push (by omega) h1, rfl, get_set_add a.lcnt l 1⟩
  · rw [if_neg h1]
    exact ⟨_, _, rfl, h.keep (by omega) h1, rfl, get_set_add a.lcnt l 1⟩

theorem cellDeactivated_ok {a : ActSt} {LL : List Nat} {l : Nat} (h : LinkInv a LL)
    (hle : a.lcnt.get l ≤ 2) (h0 : 0 ≤ a.lcnt.get l + -1) (h2 : a.lcnt.get l + -1 ≤ 2) :
    ∃ a' LL', cellDeactivated a l = .ok a' ∧ LinkInv a' LL' ∧ a'.cl = a.cl ∧
      ∀ x, a'.lcnt.get x = a.lcnt.get x + (if x = l then -1 else 0) := by
  unfold cellDeactivated
  rw [Int.sub_eq_add_neg]
  simp only [h0, h2, and_self, if_true]
  by_cases h1 : a.lcnt.get l + -1 = 1
  · rw [if_pos h1]
    exact ⟨_, _, rfl, h.remove (n := a.lcnt.get l + -1) (by omega) (by omega), rfl, get_set_add a.lcnt l (-1)⟩
  · rw [if_neg h1]
    exact ⟨_, _, rfl, h.keep (n := a.lcnt.get l + -1) (by omega) (by omega), rfl, get_set_add a.lcnt l (-1)⟩

/-- `f` is `cellActivated` (`δ = 1`) or `cellDeactivated` (`δ = −1`) -/
theorem notifyAll_ok {f : ActSt → Nat → Except Err ActSt} {δ : Int} (hδ : δ = 1 ∨ δ = -1)
    (step : ∀ {a : ActSt} {LL : List Nat} {l : Nat}, LinkInv a LL → 0 ≤ a.lcnt.get l → a.lcnt.get l ≤ 2 →
      0 ≤ a.lcnt.get l + δ → a.lcnt.get l + δ ≤ 2 →
      ∃ a' LL', f a l = .ok a' ∧ LinkInv a' LL' ∧ a'.cl = a.cl ∧
        ∀ x, a'.lcnt.get x = a.lcnt.get x + (if x = l then δ else 0)) :
    ∀ (ns : List Nat) {a : ActSt} {LL : List Nat}, LinkInv a LL → (∀ x, 0 ≤ a.lcnt.get x ∧ a.lcnt.get x ≤ 2) →
      (∀ x, 0 ≤ a.lcnt.get x + δ * (ns.count x : Int) ∧ a.lcnt.get x + δ * (ns.count x : Int) ≤ 2) →
      ∃ a' LL', notifyAll f ns a = .ok a' ∧ LinkInv a' LL' ∧ a'.cl = a.cl ∧
        ∀ x, a'.lcnt.get x = a.lcnt.get x + δ * (ns.count x : Int) := by
  intro ns
  induction ns with
  | nil => intro a LL h _ _; exact ⟨a, LL, rfl, h, rfl, by simp⟩
  | cons l ls ih =>
    intro a LL h hb he
    have cnt : ∀ x, δ * ((l :: ls).count x : Int) = δ * (ls.count x : Int) + (if x = l then δ else 0) := by
      intro x
      rw [List.count_cons]
      by_cases hx : x = l
      · subst hx; simp [Int.mul_add]
      · have : ¬ (l == x) = true := by simpa using fun e => hx e.symm
        simp [hx, this]
    have hl : 0 ≤ a.lcnt.get l + δ ∧ a.lcnt.get l + δ ≤ 2 := by
      have := hb l; have := he l; rw [cnt, if_pos rfl] at this
      rcases hδ with rfl | rfl <;> omega
    obtain ⟨a1, LL1, e1, inv1, cl1, c1⟩ := step (l := l) h (hb l).1 (hb l).2 hl.1 hl.2
    obtain ⟨a2, LL2, e2, inv2, cl2, c2⟩ := ih inv1
      (fun x => by
        rw [c1 x]
        split
        · rename_i e; rw [e]; exact hl
        · rw [Int.add_zero]; exact hb x)
      (fun x => by rw [c1 x]; have := he x; rw [cnt] at this; omega)
    refine ⟨a2, LL2, by simp only [notifyAll, e1, e2], inv2, cl2.trans cl1, fun x => ?_⟩
    rw [c2 x, c1 x, cnt]; omega

/-! ### `Cell::activate` / `Cell::deactivate` -/

/-- invariant of the activation state for the set (list) `L` of active cells: (3) the active-cell list
is well linked and represents `L`; (4) every link counter is the number of its active ends and the
active-link list holds exactly the links with counter 2 -/
structure ActInv (G : Grid.Grid) (a : ActSt) (L : List Nat) : Prop where
  cl : a.cl.Repr L
  lt : ∀ c ∈ L, c < G.cells.size
  cnt : ∀ l, a.lcnt.get l = if l < G.links.size then (activeEnds G L l : Int) else 0
  links : ∃ LL, LinkInv a LL

theorem actInv_init (G : Grid.Grid) : ActInv G ActSt.init [] := by
  refine ⟨DLL.repr_empty, by simp, ?_, [], DLL.repr_empty, ?_⟩
  · intro l; simp [ActSt.init, activeEnds]
  · intro l; simp [ActSt.init]

theorem notify_actInv {G : Grid.Grid} (hG : GridOK G) {f : ActSt → Nat → Except Err ActSt} {δ : Int} (hδ : δ = 1 ∨ δ = -1)
    (step : ∀ {a : ActSt} {LL : List Nat} {l : Nat}, LinkInv a LL → 0 ≤ a.lcnt.get l → a.lcnt.get l ≤ 2 →
      0 ≤ a.lcnt.get l + δ → a.lcnt.get l + δ ≤ 2 →
      ∃ a' LL', f a l = .ok a' ∧ LinkInv a' LL' ∧ a'.cl = a.cl ∧
        ∀ x, a'.lcnt.get x = a.lcnt.get x + (if x = l then δ else 0))
    {a : ActSt} {L L' : List Nat} (h : ActInv G a L) {c : Nat} (hlt : c < G.cells.size) {cl' : DLL} (hcl : cl'.Repr L')
    (hL' : ∀ x ∈ L', x < G.cells.size)
    (he : ∀ l, (activeEnds G L' l : Int) = activeEnds G L l + δ * (ends G l c : Int)) :
    ∃ a', notifyAll f (notifyList G c) { a with cl := cl' } = .ok a' ∧ ActInv G a' L' := by
  obtain ⟨LL, hLL⟩ := h.links
  have hb : ∀ (M : List Nat) l, (activeEnds G M l : Int) ≤ 2 := by
    intro M l; unfold activeEnds; split <;> split <;> omega
  have hcount := hG.notify c hlt
  have before : ∀ x, 0 ≤ a.lcnt.get x ∧ a.lcnt.get x ≤ 2 := by
    intro x; rw [h.cnt x]; have := hb L x; split <;> omega
  have after : ∀ x, a.lcnt.get x + δ * ((notifyList G c).count x : Int) =
      if x < G.links.size then (activeEnds G L' x : Int) else 0 := by
    intro x
    rw [h.cnt x, hcount x, he x]
    split
    · rfl
    · rw [Int.natCast_zero, Int.mul_zero, Int.add_zero]
  obtain ⟨a', LL', e, inv', cl', c'⟩ := notifyAll_ok hδ step (notifyList G c)
    (show LinkInv { a with cl := cl' } LL from ⟨hLL.ll, hLL.iff⟩) before
    (by intro x; show 0 ≤ a.lcnt.get x + _ ∧ a.lcnt.get x + _ ≤ 2; rw [after x]; have := hb L' x; split <;> omega)
  exact ⟨a', e, ⟨cl' ▸ hcl, hL', fun l => (c' l).trans (after l), LL', inv'⟩⟩

theorem activateA_ok {G : Grid.Grid} (hG : GridOK G) {a : ActSt} {L : List Nat} (h : ActInv G a L)
    {c : Nat} (hc : c ∉ L) (hlt : c < G.cells.size) :
    ∃ a', activateA G a c = .ok a' ∧ ActInv G a' (c :: L) :=
  notify_actInv hG (Or.inl rfl) (fun h _ _ => cellActivated_ok h) h hlt (DLL.repr_pushFront h.cl hc)
    (fun x hx => (List.mem_cons.mp hx).elim (fun e => e ▸ hlt) (h.lt x))
    (fun l => by rw [activeEnds_cons G hc l]; omega)

theorem deactivateA_ok {G : Grid.Grid} (hG : GridOK G) {a : ActSt} {L : List Nat} (h : ActInv G a L)
    {c : Nat} (hc : c ∈ L) :
    ∃ a', deactivateA G a c = .ok a' ∧ ActInv G a' (L.erase c) :=
  notify_actInv hG (Or.inr rfl) (fun h _ => cellDeactivated_ok h) h (h.lt c hc) (DLL.repr_remove h.cl hc)
    (fun x hx => h.lt x (List.mem_of_mem_erase hx))
    (fun l => by rw [activeEnds_erase G h.cl.nodup hc l]; omega)

/-! ### bookkeeping: `m_n_particles`, occupancy -/

theorem supp_setAt {S : Sys} {l : Store (Store (List Nat))} {c k : Nat} (hc : c < S.nCells) (hk : k < S.nCol)
    (v : List Nat) {c' k' : Nat} (hn : ¬ (c' < S.nCells ∧ k' < S.nCol)) :
    ((setAt l c k v).get c').get k' = (l.get c').get k' := by
  rw [get_setAt, if_neg]
  rintro ⟨rfl, rfl⟩
  exact hn ⟨hc, hk⟩

/-- particles listed in cell `c` (free + frozen, all colours) -/
def cellCount (S : Sys) (s : St) (c : Nat) : Nat :=
  ((List.range S.nCol).map fun k => (s.freeAt c k).length + (s.frozenAt c k).length).sum

theorem cellCount_replace {S : Sys} {s s1 : St} {c k : Nat} (hk : k < S.nCol)
    (hne : ∀ c' k', ¬ (c' = c ∧ k' = k) → (s1.freeAt c' k').length + (s1.frozenAt c' k').length =
      (s.freeAt c' k').length + (s.frozenAt c' k').length) :
    (∀ x, x ≠ c → cellCount S s1 x = cellCount S s x) ∧
    cellCount S s1 c + ((s.freeAt c k).length + (s.frozenAt c k).length) =
      cellCount S s c + ((s1.freeAt c k).length + (s1.frozenAt c k).length) := by
  unfold cellCount
  refine ⟨fun x hx => ?_, ?_⟩
  · apply sum_map_range_congr
    intro j _
    exact hne x j fun e => hx e.1
  · apply sum_map_range_replace _ _ S.nCol k hk
    intro j hj
    exact hne c j fun e => hj e.2

/-- invariants (2), (3), (4) of C09 -/
structure Book (S : Sys) (s : St) : Prop where
  /-- (3), (4): there is a duplicate-free list `L` of active cells, represented by the intrusive list,
  link counters and active-link list agree with it, and it holds exactly the cells with `m_n_particles > 0` -/
  act : ∃ L, ActInv S.G s.act L ∧ ∀ c, c ∈ L ↔ 0 < s.nPart.get c
  /-- (2) -/
  npart : ∀ c, s.nPart.get c = cellCount S s c

theorem book_init (S : Sys) : Book S St.init := by
  refine ⟨⟨[], actInv_init S.G, ?_⟩, ?_⟩
  · intro c; simp [St.init]
  · intro c
    exact (sum_map_range_zero _ _ fun k _ => by simp [St.init, St.freeAt, St.frozenAt]).symm

theorem Book.recount {S : Sys} {s s' : St} (h : Book S s) {L' : List Nat} (hA : ActInv S.G s'.act L') {c v : Nat}
    (hnp : s'.nPart = s.nPart.set c v) (hc : cellCount S s' c = v)
    (hne : ∀ x, x ≠ c → cellCount S s' x = cellCount S s x)
    (hL' : ∀ x, x ∈ L' ↔ if x = c then 0 < v else 0 < s.nPart.get x) : Book S s' := by
  refine ⟨⟨L', hA, fun x => ?_⟩, fun x => ?_⟩
  · rw [hL' x, hnp, Store.get_set]
    split <;> rfl
  · rw [hnp, Store.get_set]
    split
    · rename_i e; rw [e, hc]
    · rename_i e; rw [hne x e, h.npart x]

theorem activate_ok {S : Sys} (hG : GridOK S.G) {s : St} {L : List Nat} (h : ActInv S.G s.act L)
    {c : Nat} (hc : c ∉ L) (hlt : c < S.nCells) :
    ∃ a', activate S s c = .ok { s with act := a' } ∧ ActInv S.G a' (c :: L) := by
  obtain ⟨a', e, inv⟩ := activateA_ok hG h hc hlt
  exact ⟨a', by simp [activate, e], inv⟩

theorem deactivate_ok {S : Sys} (hG : GridOK S.G) {s : St} {L : List Nat} (h : ActInv S.G s.act L)
    {c : Nat} (hc : c ∈ L) :
    ∃ a', deactivate S s c = .ok { s with act := a' } ∧ ActInv S.G a' (L.erase c) := by
  obtain ⟨a', e, inv⟩ := deactivateA_ok hG h hc
  exact ⟨a', by simp [deactivate, e], inv⟩

/-- the `if (erase)` tail of `checkNewPosition` keeps the books (no `abort()` reachable) -/
theorem eraseFromCell_book {S : Sys} (hG : GridOK S.G) {s : St} (h : Book S s) {c k p : Nat}
    (hk : k < S.nCol) (hp : p ∈ s.freeAt c k) :
    ∃ s', eraseFromCell S s c k p = .ok s' ∧ Book S s' ∧
      s'.free = setAt s.free c k ((s.freeAt c k).erase p) ∧ s'.frozen = s.frozen ∧ s'.inj = s.inj ∧
      s'.pos = s.pos ∧ s'.fpos = s.fpos ∧ s'.erased = s.erased ∧
      (∀ L, s.act.cl.Repr L → s'.act.cl.Repr L ∨ s'.act.cl.Repr (L.erase c)) := by
  obtain ⟨L, hL, hiff⟩ := h.act
  obtain ⟨s2, hs2⟩ : ∃ s2 : St, s2 = { s with free := setAt s.free c k ((s.freeAt c k).erase p)
                                              nPart := s.nPart.set c (s.nPart.get c - 1) } := ⟨_, rfl⟩
  -- the count of cell `c` drops by one, all others stay
  have hcnt : (∀ x, x ≠ c → cellCount S s2 x = cellCount S s x) ∧ cellCount S s2 c = s.nPart.get c - 1 ∧
      0 < s.nPart.get c := by
    obtain ⟨h1, h2⟩ := cellCount_replace (S := S) (s := s) (s1 := s2) (c := c) hk
      (fun c' k' hne => by simp only [hs2, St.freeAt, St.frozenAt, get_setAt, hne, if_false])
    have hf : s2.freeAt c k = (s.freeAt c k).erase p := by simp only [hs2, St.freeAt, get_setAt, and_self, if_true]
    have hz : s2.frozenAt c k = s.frozenAt c k := by rw [hs2]; rfl
    have := List.length_pos_of_mem hp
    rw [hf, hz, List.length_erase_of_mem hp] at h2
    rw [h.npart c]
    exact ⟨h1, by omega, by omega⟩
  have hcL : c ∈ L := (hiff c).mpr hcnt.2.2
  have hA : ActInv S.G s2.act L := by rw [hs2]; exact hL
  have hnp : s2.nPart = s.nPart.set c (s.nPart.get c - 1) := by rw [hs2]
  have he : eraseFromCell S s c k p = if s.nPart.get c - 1 = 0 then deactivate S s2 c else .ok s2 := by
    rw [hs2]; simp only [eraseFromCell, Store.get_set_self]
  rw [he]
  by_cases hz : s.nPart.get c - 1 = 0
  · -- last particle: deactivate
    rw [if_pos hz]
    obtain ⟨a', e, inv'⟩ := deactivate_ok hG hA hcL
    subst hs2
    refine ⟨_, e, h.recount inv' hnp hcnt.2.1 hcnt.1 fun x => ?_, rfl, rfl, rfl, rfl, rfl, rfl,
      fun L' hL' => Or.inr (DLL.repr_unique hL' hL.cl ▸ inv'.cl)⟩
    rw [List.Nodup.mem_erase_iff hL.cl.nodup, hiff x]
    split
    · rename_i e; simp [e, hz]
    · rename_i e; simp [e]
  · rw [if_neg hz]
    subst hs2
    refine ⟨_, rfl, h.recount hA hnp hcnt.2.1 hcnt.1 fun x => ?_, rfl, rfl, rfl, rfl, rfl, rfl, fun L' hL' => Or.inl hL'⟩
    split
    · rename_i e; rw [e]; exact ⟨fun _ => by omega, fun _ => hcL⟩
    · exact hiff x

/-- `if (np && !m_n_particles) activate(); m_n_particles += np;` of `Cell::commitInjections`; `Cell::injectFrozen` has `np = 1`
and tests `!m_n_particles` only, hence the abstract `p` -/
theorem grow_book {S : Sys} (hG : GridOK S.G) {s s1 : St} (h : Book S s) {c np : Nat} (hc : c < S.nCells)
    (hact : s1.act = s.act) (hnp : s1.nPart = s.nPart)
    (hcnt : (∀ x, x ≠ c → cellCount S s1 x = cellCount S s x) ∧ cellCount S s1 c = cellCount S s c + np)
    {p : Prop} [Decidable p] (hp : p ↔ np ≠ 0 ∧ s1.nPart.get c = 0) :
    ∃ s' a', (match (if p then activate S s1 c else .ok s1) with
        | .ok t => Except.ok ({ t with nPart := t.nPart.set c (t.nPart.get c + np) } : St)
        | .error e => .error e) = .ok s' ∧
      s' = { s1 with act := a', nPart := s.nPart.set c (s.nPart.get c + np) } ∧ Book S s' := by
  obtain ⟨L, hL, hiff⟩ := h.act
  have hc' : cellCount S s1 c = s.nPart.get c + np := by rw [hcnt.2, h.npart c]
  by_cases hact' : p
  · rw [if_pos hact']
    have hcL : c ∉ L := fun hm => by have := (hiff c).mp hm; have := (hp.mp hact').2; rw [hnp] at this; omega
    obtain ⟨a', e, inv'⟩ := activate_ok hG (s := s1) (hact ▸ hL) hcL hc
    rw [e]
    refine ⟨_, a', by simp only [hnp], rfl, h.recount inv' rfl hc' hcnt.1 fun x => ?_⟩
    rw [List.mem_cons, hiff x]
    split
    · rename_i e; have := (hp.mp hact').1; simp [e]; omega
    · rename_i e; simp [e]
  · rw [if_neg hact']
    refine ⟨_, s.act, by simp only [hnp, hact], rfl, ?_⟩
    refine h.recount (L' := L) hL rfl hc' hcnt.1 fun x => ?_
    rw [hiff x]
    split
    · rename_i e
      rw [e]
      have : ¬ (np ≠ 0 ∧ s.nPart.get c = 0) := fun hh => hact' (hp.mpr (hnp ▸ hh))
      exact ⟨fun _ => by omega, fun _ => by omega⟩
    · exact Iff.rfl

/-- the injection buffers of the (cell, colour) pairs in `P` were appended to the free lists and cleared -/
structure Committed (P : Nat → Nat → Prop) (s s' : St) : Prop where
  done : ∀ c k, P c k → s'.freeAt c k = s.freeAt c k ++ s.injAt c k ∧ s'.injAt c k = []
  rest : ∀ c k, ¬ P c k → s'.freeAt c k = s.freeAt c k ∧ s'.injAt c k = s.injAt c k
  frozen : s'.frozen = s.frozen
  pos : s'.pos = s.pos
  fpos : s'.fpos = s.fpos
  erased : s'.erased = s.erased

theorem Committed.trans {P Q R : Nat → Nat → Prop} {s s1 s2 : St} (h1 : Committed P s s1) (h2 : Committed Q s1 s2)
    (hd : ∀ c k, P c k → ¬ Q c k) (hR : ∀ c k, R c k ↔ P c k ∨ Q c k) : Committed R s s2 := by
  refine ⟨fun c k h => ?_, fun c k h => ?_, h2.frozen.trans h1.frozen, h2.pos.trans h1.pos, h2.fpos.trans h1.fpos,
    h2.erased.trans h1.erased⟩
  · rcases (hR c k).mp h with hp | hq
    · obtain ⟨a, b⟩ := h1.done c k hp
      obtain ⟨a', b'⟩ := h2.rest c k (hd c k hp)
      exact ⟨a'.trans a, b'.trans b⟩
    · obtain ⟨a, b⟩ := h1.rest c k fun hp => hd c k hp hq
      obtain ⟨a', b'⟩ := h2.done c k hq
      rw [a', b', a, b]; exact ⟨rfl, rfl⟩
  · have hp : ¬ P c k := fun hp => h ((hR c k).mpr (Or.inl hp))
    have hq : ¬ Q c k := fun hq => h ((hR c k).mpr (Or.inr hq))
    obtain ⟨a, b⟩ := h1.rest c k hp
    obtain ⟨a', b'⟩ := h2.rest c k hq
    exact ⟨a'.trans a, b'.trans b⟩

theorem commitColours_spec (c : Nat) : ∀ (ks : List Nat) (s : St) (np : Nat), ks.Nodup →
    Committed (fun c' k => c' = c ∧ k ∈ ks) s (commitColours c ks s np).1 ∧
    (commitColours c ks s np).1.nPart = s.nPart ∧ (commitColours c ks s np).1.act = s.act ∧
    (commitColours c ks s np).2 = np + (ks.map fun k => (s.injAt c k).length).sum := by
  intro ks
  induction ks with
  | nil => intro s np _; exact ⟨⟨fun _ _ h => by simp at h, fun _ _ _ => ⟨rfl, rfl⟩, rfl, rfl, rfl, rfl⟩, rfl, rfl, rfl⟩
  | cons k ks ih =>
    intro s np hn
    obtain ⟨hk, hn⟩ := List.nodup_cons.mp hn
    simp only [commitColours]
    obtain ⟨s2, hs2⟩ : ∃ s2 : St, s2 = { { s with free := setAt s.free c k (s.freeAt c k ++ s.injAt c k) } with
        inj := setAt s.inj c k [] } := ⟨_, rfl⟩
    rw [← hs2]
    have h1 : Committed (fun c' k' => c' = c ∧ k' = k) s s2 := by
      subst hs2
      refine ⟨?_, fun c' k' h => ?_, rfl, rfl, rfl, rfl⟩
      · rintro c' k' ⟨rfl, rfl⟩
        simp only [St.freeAt, St.injAt, get_setAt, and_self, if_true]
      · simp only [St.freeAt, St.injAt, get_setAt, h, if_false, and_self]
    have hinj : ∀ k', k' ∈ ks → s2.injAt c k' = s.injAt c k' := fun k' hk' =>
      (h1.rest c k' fun e => hk (e.2 ▸ hk')).2
    obtain ⟨i1, i2, i3, i4⟩ := ih s2 (np + (s.injAt c k).length) hn
    refine ⟨h1.trans i1 (fun c' k' hp hq => hk (hp.2 ▸ hq.2)) fun c' k' => ?_, i2.trans (by rw [hs2]),
      i3.trans (by rw [hs2]), ?_⟩
    · simp only [List.mem_cons]
      exact ⟨fun ⟨a, b⟩ => b.elim (fun b => Or.inl ⟨a, b⟩) fun b => Or.inr ⟨a, b⟩,
        fun h => h.elim (fun h => ⟨h.1, Or.inl h.2⟩) fun h => ⟨h.1, Or.inr h.2⟩⟩
    · rw [i4, List.map_congr_left fun k' hk' => congrArg List.length (hinj k' hk')]
      simp only [List.map_cons, List.sum_cons]; omega

theorem commitInjections_book {S : Sys} (hG : GridOK S.G) {s : St} (h : Book S s) {c : Nat}
    (hc : c < S.nCells) :
    ∃ s', commitInjections S s c = .ok s' ∧ Book S s' ∧ Committed (fun c' k => c' = c ∧ k < S.nCol) s s' := by
  obtain ⟨i1, i2, i3, i4⟩ := commitColours_spec c (List.range S.nCol) s 0 List.nodup_range
  simp only [List.mem_range] at i1
  unfold commitInjections
  generalize commitColours c (List.range S.nCol) s 0 = r at i1 i2 i3 i4
  obtain ⟨s1, np⟩ := r
  simp only at i1 i2 i3 i4 ⊢
  have hfz : ∀ x j, s1.frozenAt x j = s.frozenAt x j := fun x j => by simp only [St.frozenAt, i1.frozen]
  have hcnt : (∀ x, x ≠ c → cellCount S s1 x = cellCount S s x) ∧ cellCount S s1 c = cellCount S s c + np := by
    refine ⟨fun x hx => sum_map_range_congr _ _ _ fun j _ => ?_, ?_⟩
    · rw [(i1.rest x j fun e => hx e.1).1, hfz]
    · unfold cellCount
      rw [i4, Nat.zero_add, Nat.add_comm (List.sum _), ← sum_map_add]
      apply sum_map_range_congr
      intro j hj
      rw [(i1.done c j ⟨rfl, hj⟩).1, hfz, List.length_append]
      omega
  obtain ⟨s', a', e, rfl, b⟩ := grow_book hG h hc i3 i2 hcnt Iff.rfl
  exact ⟨_, e, b, i1.done, i1.rest, i1.frozen, i1.pos, i1.fpos, i1.erased⟩

theorem commitCells_book {S : Sys} (hG : GridOK S.G) : ∀ (cs : List Nat) {s : St}, Book S s →
    cs.Nodup → (∀ c ∈ cs, c < S.nCells) →
    ∃ s', commitCells S cs s = .ok s' ∧ Book S s' ∧ Committed (fun c k => c ∈ cs ∧ k < S.nCol) s s' := by
  intro cs
  induction cs with
  | nil => intro s h _ _; exact ⟨s, rfl, h, fun _ _ h => by simp at h, fun _ _ _ => ⟨rfl, rfl⟩, rfl, rfl, rfl, rfl⟩
  | cons c cs ih =>
    intro s h hn hlt
    obtain ⟨hc, hn⟩ := List.nodup_cons.mp hn
    obtain ⟨s1, e1, b1, c1⟩ := commitInjections_book hG h (hlt c (by simp))
    obtain ⟨s2, e2, b2, c2⟩ := ih b1 hn (fun x hx => hlt x (by simp [hx]))
    refine ⟨s2, by simp only [commitCells, e1, e2], b2, c1.trans c2 (fun c' k hp hq => hc (hp.1 ▸ hq.1)) fun c' k => ?_⟩
    simp only [List.mem_cons]
    exact ⟨fun ⟨a, b⟩ => a.elim (fun a => Or.inl ⟨a, b⟩) fun a => Or.inr ⟨a, b⟩,
      fun h => h.elim (fun h => ⟨Or.inl h.1, h.2⟩) fun h => ⟨Or.inr h.1, h.2⟩⟩

theorem commitAll_book {S : Sys} (hG : GridOK S.G) {s : St} (h : Book S s) :
    ∃ s', commitAll S s = .ok s' ∧ Book S s' ∧ Committed (fun c k => c < S.nCells ∧ k < S.nCol) s s' := by
  have := commitCells_book hG (List.range S.nCells) h List.nodup_range (fun c hc => List.mem_range.mp hc)
  unfold commitAll
  simpa only [List.mem_range] using this

/-- `injectFree` touches only an injection buffer -/
theorem injectFree_book {S : Sys} {s : St} (h : Book S s) (t k p : Nat) : Book S (injectFree s t k p) :=
  ⟨h.act, h.npart⟩

theorem setPos_book {S : Sys} {s : St} (h : Book S s) (pos : Store (Store (V3 Rat))) :
    Book S { s with pos := pos } :=
  ⟨h.act, h.npart⟩

/-! ### invariant (1): every free particle is registered exactly once -/

/-- how often the free particle `(k, p)` is registered (free lists and injection buffers of all cells) -/
def occ (S : Sys) (s : St) (k p : Nat) : Nat :=
  ((List.range S.nCells).map fun c => (s.freeAt c k).count p + (s.injAt c k).count p).sum

/-- how often the frozen particle `(k, p)` is registered -/
def foccOf (S : Sys) (s : St) (k p : Nat) : Nat :=
  ((List.range S.nCells).map fun c => (s.frozenAt c k).count p).sum

def listOcc (n : Nat) (l : Store (Store (List Nat))) (k p : Nat) : Nat :=
  ((List.range n).map fun c => ((l.get c).get k).count p).sum

theorem occ_eq (S : Sys) (s : St) (k p : Nat) :
    occ S s k p = listOcc S.nCells s.free k p + listOcc S.nCells s.inj k p :=
  sum_map_add _ _ _

theorem foccOf_eq (S : Sys) (s : St) (k p : Nat) : foccOf S s k p = listOcc S.nCells s.frozen k p := rfl

/-- The invariant of the C09 state machine, for the universe `U` of free particles `(colour, slot)`
and `UF` of frozen particles:
(2)(3)(4) = `book`; (1) = `occ`, `focc` (registered exactly once, in a free list or — mid-step — an
injection buffer); `supp`: nothing is registered outside the existing cells and colours. -/
structure Inv (S : Sys) (U UF : List (Nat × Nat)) (s : St) : Prop where
  book : Book S s
  occ : ∀ k p, occ S s k p = if (k, p) ∈ U ∧ (k, p) ∉ s.erased then 1 else 0
  focc : ∀ k p, foccOf S s k p = if (k, p) ∈ UF then 1 else 0
  supp : ∀ c k, ¬ (c < S.nCells ∧ k < S.nCol) →
    s.freeAt c k = [] ∧ s.injAt c k = [] ∧ s.frozenAt c k = []

theorem Inv.lt_of_mem {S : Sys} {U UF : List (Nat × Nat)} {s : St} (h : Inv S U UF s) {c k p : Nat}
    (hp : p ∈ s.freeAt c k ∨ p ∈ s.injAt c k ∨ p ∈ s.frozenAt c k) : c < S.nCells ∧ k < S.nCol := by
  apply Classical.byContradiction
  intro hn
  obtain ⟨a1, a2, a3⟩ := h.supp c k hn
  rw [a1, a2, a3] at hp
  simp at hp

theorem Inv.registered {S : Sys} {U UF : List (Nat × Nat)} {s : St} (h : Inv S U UF s) {c k p : Nat}
    (hp : p ∈ s.freeAt c k ∨ p ∈ s.injAt c k) :
    c < S.nCells ∧ k < S.nCol ∧ (k, p) ∈ U ∧ (k, p) ∉ s.erased ∧ Cells.occ S s k p = 1 := by
  have hc := h.lt_of_mem (hp.imp_right Or.inl)
  have h1 := term_le_sum (fun c => (s.freeAt c k).count p + (s.injAt c k).count p) S.nCells c hc.1
  have h2 : 0 < (s.freeAt c k).count p + (s.injAt c k).count p := by
    rcases hp with hp | hp <;> have := List.count_pos_iff.mpr hp <;> omega
  have h3 := h.occ k p
  have : 0 < Cells.occ S s k p := by unfold Cells.occ; omega
  by_cases hU : (k, p) ∈ U ∧ (k, p) ∉ s.erased
  · rw [if_pos hU] at h3; exact ⟨hc.1, hc.2, hU.1, hU.2, h3⟩
  · rw [if_neg hU] at h3; omega

theorem Inv.free_nodup {S : Sys} {U UF : List (Nat × Nat)} {s : St} (h : Inv S U UF s) (c k : Nat) :
    (s.freeAt c k).Nodup := by
  rw [List.nodup_iff_count]
  intro p
  by_cases hp : p ∈ s.freeAt c k
  · obtain ⟨hc, _, _, _, h1⟩ := h.registered (Or.inl hp)
    have := term_le_sum (fun c => (s.freeAt c k).count p + (s.injAt c k).count p) S.nCells c hc
    unfold Cells.occ at h1
    omega
  · rw [List.count_eq_zero.mpr hp]; omega

/-- a registered particle is registered nowhere else -/
theorem Inv.unique {S : Sys} {U UF : List (Nat × Nat)} {s : St} (h : Inv S U UF s) {c c' k p : Nat}
    (hp : p ∈ s.freeAt c k) (hp' : p ∈ s.freeAt c' k ∨ p ∈ s.injAt c' k) : c' = c ∧ p ∉ s.injAt c k := by
  obtain ⟨hc, _, _, _, h1⟩ := h.registered (Or.inl hp)
  have hc' := (h.registered hp').1
  have c1 : 1 ≤ (s.freeAt c k).count p := List.count_pos_iff.mpr hp
  unfold Cells.occ at h1
  constructor
  · apply Classical.byContradiction; intro hne
    -- two different cells both contribute
    have := two_terms_le_sum (fun j => (s.freeAt j k).count p + (s.injAt j k).count p) S.nCells hc hc' hne
    have c2 : 1 ≤ (s.freeAt c' k).count p + (s.injAt c' k).count p := by
      rcases hp' with hp' | hp' <;> have := List.count_pos_iff.mpr hp' <;> omega
    omega
  · intro hin
    have c2 : 1 ≤ (s.injAt c k).count p := List.count_pos_iff.mpr hin
    have := term_le_sum (fun j => (s.freeAt j k).count p + (s.injAt j k).count p) S.nCells c hc
    omega

theorem focc_congr {S : Sys} {s s' : St} (h : s'.frozen = s.frozen) (k p : Nat) :
    foccOf S s' k p = foccOf S s k p := by
  unfold foccOf St.frozenAt; rw [h]

theorem occ_congr {S : Sys} {s s' : St} {k p : Nat}
    (h : ∀ c, c < S.nCells → (s'.freeAt c k).count p + (s'.injAt c k).count p =
      (s.freeAt c k).count p + (s.injAt c k).count p) :
    occ S s' k p = occ S s k p :=
  sum_map_range_congr _ _ S.nCells h

theorem listOcc_setAt (n : Nat) (l : Store (Store (List Nat))) {c : Nat} (hc : c < n) (k : Nat) (v : List Nat) (k' p' : Nat) :
    listOcc n (setAt l c k v) k' p' + (if k' = k then ((l.get c).get k).count p' else 0) =
      listOcc n l k' p' + (if k' = k then v.count p' else 0) := by
  unfold listOcc
  by_cases hk : k' = k
  · subst hk
    have := sum_map_range_replace (fun c' => ((l.get c').get k').count p')
      (fun c' => (((setAt l c k' v).get c').get k').count p') n c hc
      (fun j hj => by simp only [get_setAt, hj, false_and, if_false])
    simpa only [get_setAt, and_self, if_true] using this
  · simp only [hk, if_false, Nat.add_zero, get_setAt, and_false]

theorem occ_after_erase {S : Sys} {s0 s' : St} {c k p : Nat} (hc : c < S.nCells) (hp : p ∈ s0.freeAt c k)
    (hf : s'.free = setAt s0.free c k ((s0.freeAt c k).erase p)) (hi : s'.inj = s0.inj) :
    (∀ k' p', (k', p') ≠ (k, p) → occ S s' k' p' = occ S s0 k' p') ∧ occ S s' k p + 1 = occ S s0 k p := by
  have key := fun k' p' => listOcc_setAt S.nCells s0.free hc k ((s0.freeAt c k).erase p) k' p'
  simp only [occ_eq, hf, hi]
  refine ⟨fun k' p' hne => ?_, ?_⟩
  · have := key k' p'
    split at this
    · rename_i e
      rw [List.count_erase_of_ne (fun e' => hne (by rw [e, e']))] at this
      simp only [St.freeAt] at this ⊢; omega
    · simp only [St.freeAt] at this ⊢; omega
  · have := key k p
    have := List.count_pos_iff.mpr hp
    simp only [if_true, List.count_erase_self, St.freeAt] at *
    omega

theorem occ_after_inject {S : Sys} (s : St) {t : Nat} (k p : Nat) (ht : t < S.nCells) :
    (∀ k' p', (k', p') ≠ (k, p) → occ S (injectFree s t k p) k' p' = occ S s k' p') ∧
      occ S (injectFree s t k p) k p = occ S s k p + 1 := by
  have key := fun k' p' => listOcc_setAt S.nCells s.inj ht k (s.injAt t k ++ [p]) k' p'
  simp only [occ_eq, injectFree]
  refine ⟨fun k' p' hne => ?_, ?_⟩
  · have := key k' p'
    rw [count_concat] at this
    split at this
    · rename_i e
      rw [if_neg (fun e' => hne (by rw [e, e']))] at this
      simp only [St.injAt] at this ⊢; omega
    · simp only [St.injAt] at this ⊢; omega
  · have := key k p
    simp only [if_true, count_concat, St.injAt] at this ⊢
    omega

theorem focc_after_inject {S : Sys} {s s' : St} {t k p : Nat} (ht : t < S.nCells)
    (hz : s'.frozen = setAt s.frozen t k (s.frozenAt t k ++ [p])) (k' p' : Nat) :
    foccOf S s' k' p' = foccOf S s k' p' + (if (k', p') = (k, p) then 1 else 0) := by
  have := listOcc_setAt S.nCells s.frozen ht k (s.frozenAt t k ++ [p]) k' p'
  rw [count_concat, ← hz] at this
  rw [foccOf_eq, foccOf_eq]
  simp only [Prod.mk.injEq]
  split at this
  · rename_i e; simp only [e, true_and, St.frozenAt] at this ⊢; omega
  · rename_i e; simp only [e, false_and, if_false]; omega

/-- the ways out of `Cell::checkNewPosition` -/
theorem checkNewPosition_cases (S : Sys) (s : St) (c k p : Nat) (cg : CellGeom) (n : Nat)
    (hcg : cg = S.G.cells.getD c default)
    (hn : n = (offset2neighbor (leaveOffset cg (s.posAt k p))).toNat) :
    (isInsideEps cg.c1 cg.c2 (s.posAt k p) S.eps = true ∧ checkNewPosition S s c k p = .ok s) ∨
    (isInsideEps cg.c1 cg.c2 (s.posAt k p) S.eps = false ∧ S.G.outAt c n = [] ∧
      checkNewPosition S s c k p =
        match eraseFromCell S s c k p with
        | .ok s => .ok { s with erased := s.erased ++ [(k, p)] }
        | .error e => .error e) ∨
    (∃ t, isInsideEps cg.c1 cg.c2 (s.posAt k p) S.eps = false ∧ S.G.outAt c n = [t] ∧
      isInside (S.G.cells.getD t default).c1 (S.G.cells.getD t default).c2
        (wrapPos cg (S.G.cells.getD t default) n (s.posAt k p)) = true ∧
      checkNewPosition S s c k p =
        eraseFromCell S (injectFree { s with pos := setAt s.pos k p (wrapPos cg (S.G.cells.getD t default) n (s.posAt k p)) } t k p) c k p) ∨
    (checkNewPosition S s c k p = .error (.flewTooFar k p)) ∨
    (checkNewPosition S s c k p = .error .multiOutlet ∧ 2 ≤ (S.G.outAt c n).length) := by
  subst hcg hn
  unfold checkNewPosition
  simp only []
  by_cases h1 : isInsideEps (S.G.cells.getD c default).c1 (S.G.cells.getD c default).c2 (s.posAt k p) S.eps = true
  · left; exact ⟨h1, by rw [if_pos h1]⟩
  · have h1' : isInsideEps (S.G.cells.getD c default).c1 (S.G.cells.getD c default).c2 (s.posAt k p) S.eps = false :=
      Bool.eq_false_iff.mpr h1
    right
    rw [if_neg h1]
    generalize hn : (offset2neighbor (leaveOffset (S.G.cells.getD c default) (s.posAt k p))).toNat = n
    rcases ho : S.G.outAt c n with _ | ⟨t, _ | ⟨t2, r⟩⟩
    · exact Or.inl ⟨h1', rfl, rfl⟩
    · right
      simp only []
      by_cases h2 : isInside (S.G.cells.getD t default).c1 (S.G.cells.getD t default).c2
          (wrapPos (S.G.cells.getD c default) (S.G.cells.getD t default) n (s.posAt k p)) = true
      · exact Or.inl ⟨t, h1', rfl, h2, by rw [if_pos h2]⟩
      · exact Or.inr (Or.inl (by rw [if_neg h2]))
    · exact Or.inr (Or.inr (Or.inr ⟨rfl, by simp⟩))

/-- what `checkNewPosition` did to the particle `(k, p)` of cell `c` -/
inductive CheckOutcome (S : Sys) (s s' : St) (c k p : Nat) : Prop where
  /-- still inside (`isInsideEps`): nothing changes -/
  | stay (h : s' = s)
      (inside : isInsideEps (S.G.cells.getD c default).c1 (S.G.cells.getD c default).c2 (s.posAt k p) S.eps = true)
  /-- no outlet in the direction of leaving: removed from the cell and from the phase -/
  | erased (hfree : s'.free = setAt s.free c k ((s.freeAt c k).erase p)) (hinj : s'.inj = s.inj)
      (hfrozen : s'.frozen = s.frozen) (hpos : s'.pos = s.pos) (hfpos : s'.fpos = s.fpos)
      (herased : s'.erased = s.erased ++ [(k, p)])
      (hout : S.G.outAt c (offset2neighbor (leaveOffset (S.G.cells.getD c default) (s.posAt k p))).toNat = [])
      (outside : isInsideEps (S.G.cells.getD c default).c1 (S.G.cells.getD c default).c2 (s.posAt k p) S.eps = false)
  /-- handed over to the outlet cell `t` in direction `n` with the position wrapped by `wrapPos` -/
  | moved (t n : Nat) (ht : t < S.nCells)
      (hn : n = (offset2neighbor (leaveOffset (S.G.cells.getD c default) (s.posAt k p))).toNat)
      (hout : S.G.outAt c n = [t])
      (outside : isInsideEps (S.G.cells.getD c default).c1 (S.G.cells.getD c default).c2 (s.posAt k p) S.eps = false)
      (hfree : s'.free = setAt s.free c k ((s.freeAt c k).erase p))
      (hinj : s'.inj = setAt s.inj t k (s.injAt t k ++ [p]))
      (hfrozen : s'.frozen = s.frozen)
      (hpos : s'.pos = setAt s.pos k p (wrapPos (S.G.cells.getD c default) (S.G.cells.getD t default) n (s.posAt k p)))
      (hfpos : s'.fpos = s.fpos) (herased : s'.erased = s.erased)
      (inside : isInside (S.G.cells.getD t default).c1 (S.G.cells.getD t default).c2
        (wrapPos (S.G.cells.getD c default) (S.G.cells.getD t default) n (s.posAt k p)) = true)

/-- `Cell::checkNewPosition` preserves the invariant; the only errors it can raise from a state
satisfying the invariant are `PARTICLEFLEWTOOFAR` and — on grids with several outlets in one direction,
which `cellSubdivide` does not build — the model's refusal `multiOutlet` -/
theorem checkNewPosition_inv {S : Sys} (hG : GridOK S.G) {U UF : List (Nat × Nat)} {s : St}
    (h : Inv S U UF s) {c k p : Nat} (hp : p ∈ s.freeAt c k) :
    (∃ s', checkNewPosition S s c k p = .ok s' ∧ Inv S U UF s' ∧ CheckOutcome S s s' c k p ∧
        (∀ L, s.act.cl.Repr L → s'.act.cl.Repr L ∨ s'.act.cl.Repr (L.erase c))) ∨
      checkNewPosition S s c k p = .error (.flewTooFar k p) ∨
      (checkNewPosition S s c k p = .error .multiOutlet ∧ ¬ OutSingle S.G) := by
  obtain ⟨hc, hk, hU, hE, hocc⟩ := h.registered (Or.inl hp)
  rcases checkNewPosition_cases S s c k p _ _ rfl rfl with ⟨hin, e⟩ | ⟨hout, ho, e⟩ | ⟨t, hout, ho, hin, e⟩ |
      e | ⟨e, h2⟩
  · exact Or.inl ⟨s, e, h, .stay rfl hin, fun L hL => Or.inl hL⟩
  · -- erased
    obtain ⟨s1, e1, b1, f1, f2, f3, f4, f5, f6, f7⟩ := eraseFromCell_book hG h.book hk hp
    rw [e1] at e
    obtain ⟨o1, o2⟩ := occ_after_erase (S := S) hc hp f1 f3
    refine Or.inl ⟨{ s1 with erased := s1.erased ++ [(k, p)] }, e, ⟨⟨b1.act, b1.npart⟩, fun k' p' => ?_,
      fun k' p' => (focc_congr f2 k' p').trans (h.focc k' p'), fun c' k' hn => ?_⟩,
      .erased f1 f3 f2 f4 f5 (by simp only [f6]) ho hout, f7⟩
    · show occ S s1 k' p' = _
      simp only [f6, List.mem_append, List.mem_singleton]
      by_cases hkp : (k', p') = (k, p)
      · obtain ⟨rfl, rfl⟩ := Prod.mk.inj hkp
        simp only [or_true, not_true_eq_false, and_false, if_false]
        omega
      · rw [o1 k' p' hkp, h.occ k' p']
        simp [hkp]
    · obtain ⟨a1, a2, a3⟩ := h.supp c' k' hn
      refine ⟨?_, ?_, ?_⟩
      · show s1.freeAt c' k' = []; simp only [St.freeAt, f1]; exact (supp_setAt hc hk _ hn).trans a1
      · show s1.injAt c' k' = []; simp only [St.injAt, f3]; exact a2
      · show s1.frozenAt c' k' = []; simp only [St.frozenAt, f2]; exact a3
  · -- moved
    have ht : t < S.nCells := hG.out_lt c hc _ (leaveOffset_lt _ _) t (by rw [ho]; simp)
    generalize hR : wrapPos (S.G.cells.getD c default) (S.G.cells.getD t default)
      (offset2neighbor (leaveOffset (S.G.cells.getD c default) (s.posAt k p))).toNat (s.posAt k p) = R at e hin
    obtain ⟨s1, e1, b1, f1, f2, f3, f4, f5, f6, f7⟩ := eraseFromCell_book hG
      (s := injectFree { s with pos := setAt s.pos k p R } t k p) ⟨h.book.act, h.book.npart⟩ hk hp
    rw [e1] at e
    obtain ⟨o1, o2⟩ := occ_after_erase (S := S)
      (s0 := injectFree { s with pos := setAt s.pos k p R } t k p) hc hp f1 f3
    obtain ⟨j1, j2⟩ := occ_after_inject (S := S) ({ s with pos := setAt s.pos k p R } : St) k p ht
    have occpos : ∀ k' p', occ S ({ s with pos := setAt s.pos k p R } : St) k' p' = occ S s k' p' := fun _ _ => rfl
    refine Or.inl ⟨s1, e, ⟨b1, fun k' p' => ?_, fun k' p' => (focc_congr f2 k' p').trans (h.focc k' p'),
      fun c' k' hn => ?_⟩,
      .moved t _ ht rfl ho hout f1 f3 f2 (by rw [f4, hR]; rfl) f5 f6 (by rw [hR]; exact hin), f7⟩
    · rw [f6]
      show occ S s1 k' p' = if (k', p') ∈ U ∧ (k', p') ∉ s.erased then 1 else 0
      rw [← h.occ k' p']
      by_cases hkp : (k', p') = (k, p)
      · obtain ⟨rfl, rfl⟩ := Prod.mk.inj hkp
        rw [j2, occpos] at o2
        omega
      · rw [o1 k' p' hkp, j1 k' p' hkp, occpos]
    · obtain ⟨a1, a2, a3⟩ := h.supp c' k' hn
      refine ⟨?_, ?_, ?_⟩
      · simp only [St.freeAt, f1]; exact (supp_setAt hc hk _ hn).trans a1
      · simp only [St.injAt, f3, injectFree]; exact (supp_setAt ht hk _ hn).trans a2
      · simp only [St.frozenAt, f2]; exact a3
  · exact Or.inr (Or.inl e)
  · refine Or.inr (Or.inr ⟨e, fun hs => ?_⟩)
    have := hs c hc (offset2neighbor (leaveOffset (S.G.cells.getD c default) (s.posAt k p))).toNat
      (leaveOffset_lt _ _)
    omega

end Sympler.Cells
