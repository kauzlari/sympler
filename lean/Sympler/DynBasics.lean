import Sympler.Dyn

/-!
Groundwork for the lemmas about the `Dyn` model (core Lean only): vector algebra, finite sums, the relations between
the state before and after a phase (what is written, what is never touched), what an expression can see of a particle.
-/
namespace Sympler.Dyn

namespace Vec3

theorem ext' : ∀ {a b : Vec3}, a.x = b.x → a.y = b.y → a.z = b.z → a = b
  | ⟨_, _, _⟩, ⟨_, _, _⟩, rfl, rfl, rfl => rfl

@[simp] theorem zero_x : (0 : Vec3).x = 0 := rfl
@[simp] theorem zero_y : (0 : Vec3).y = 0 := rfl
@[simp] theorem zero_z : (0 : Vec3).z = 0 := rfl
@[simp] theorem add_x (a b : Vec3) : (a + b).x = a.x + b.x := rfl
@[simp] theorem add_y (a b : Vec3) : (a + b).y = a.y + b.y := rfl
@[simp] theorem add_z (a b : Vec3) : (a + b).z = a.z + b.z := rfl
@[simp] theorem sub_x (a b : Vec3) : (a - b).x = a.x - b.x := rfl
@[simp] theorem sub_y (a b : Vec3) : (a - b).y = a.y - b.y := rfl
@[simp] theorem sub_z (a b : Vec3) : (a - b).z = a.z - b.z := rfl
@[simp] theorem neg_x (a : Vec3) : (-a).x = -a.x := rfl
@[simp] theorem neg_y (a : Vec3) : (-a).y = -a.y := rfl
@[simp] theorem neg_z (a : Vec3) : (-a).z = -a.z := rfl
@[simp] theorem smul_x (c : Rat) (a : Vec3) : (c • a).x = c * a.x := rfl
@[simp] theorem smul_y (c : Rat) (a : Vec3) : (c • a).y = c * a.y := rfl
@[simp] theorem smul_z (c : Rat) (a : Vec3) : (c • a).z = c * a.z := rfl
@[simp] theorem cmul_x (a b : Vec3) : (cmul a b).x = a.x * b.x := rfl
@[simp] theorem cmul_y (a b : Vec3) : (cmul a b).y = a.y * b.y := rfl
@[simp] theorem cmul_z (a b : Vec3) : (cmul a b).z = a.z * b.z := rfl
@[simp] theorem mk_x (a b c : Rat) : (Vec3.mk a b c).x = a := rfl
@[simp] theorem mk_y (a b c : Rat) : (Vec3.mk a b c).y = b := rfl
@[simp] theorem mk_z (a b c : Rat) : (Vec3.mk a b c).z = c := rfl

@[simp] theorem add_zero (a : Vec3) : a + 0 = a := ext' (Rat.add_zero _) (Rat.add_zero _) (Rat.add_zero _)
@[simp] theorem zero_add (a : Vec3) : 0 + a = a := ext' (Rat.zero_add _) (Rat.zero_add _) (Rat.zero_add _)
theorem add_comm (a b : Vec3) : a + b = b + a := ext' (Rat.add_comm ..) (Rat.add_comm ..) (Rat.add_comm ..)
theorem add_assoc (a b c : Vec3) : a + b + c = a + (b + c) :=
  ext' (Rat.add_assoc ..) (Rat.add_assoc ..) (Rat.add_assoc ..)
theorem add_left_comm (a b c : Vec3) : a + (b + c) = b + (a + c) := by
  rw [← add_assoc, add_comm a b, add_assoc]
@[simp] theorem smul_zero (c : Rat) : c • (0 : Vec3) = 0 := ext' (Rat.mul_zero _) (Rat.mul_zero _) (Rat.mul_zero _)
@[simp] theorem zero_smul (a : Vec3) : (0 : Rat) • a = 0 := ext' (Rat.zero_mul _) (Rat.zero_mul _) (Rat.zero_mul _)
theorem smul_add (c : Rat) (a b : Vec3) : c • (a + b) = c • a + c • b :=
  ext' (Rat.mul_add ..) (Rat.mul_add ..) (Rat.mul_add ..)
theorem smul_smul (a b : Rat) (v : Vec3) : a • (b • v) = (a * b) • v :=
  ext' (Rat.mul_assoc ..).symm (Rat.mul_assoc ..).symm (Rat.mul_assoc ..).symm
theorem add_smul (a b : Rat) (v : Vec3) : (a + b) • v = a • v + b • v :=
  ext' (Rat.add_mul ..) (Rat.add_mul ..) (Rat.add_mul ..)
theorem add_right_cancel_iff {a b c : Vec3} : a + c = b + c ↔ a = b :=
  ⟨fun h => ext' (Rat.add_right_cancel _ (congrArg x h)) (Rat.add_right_cancel _ (congrArg y h))
    (Rat.add_right_cancel _ (congrArg z h)), fun h => by rw [h]⟩
@[simp] theorem cmul_zero (a : Vec3) : cmul a 0 = 0 := ext' (Rat.mul_zero _) (Rat.mul_zero _) (Rat.mul_zero _)
@[simp] theorem sub_self (a : Vec3) : a - a = 0 := ext' (Rat.sub_self) (Rat.sub_self) (Rat.sub_self)
theorem neg_one_smul (a : Vec3) : (-1 : Rat) • a = -a := by apply ext' <;> simp [Rat.neg_mul]
theorem neg_neg (a : Vec3) : - -a = a := ext' (Rat.neg_neg _) (Rat.neg_neg _) (Rat.neg_neg _)
@[simp] theorem add_neg_self (a : Vec3) : a + -a = 0 := ext' (Rat.add_neg_cancel _) (Rat.add_neg_cancel _) (Rat.add_neg_cancel _)
end Vec3

def vsum : List Vec3 → Vec3
  | [] => 0
  | a :: l => a + vsum l

@[simp] theorem vsum_nil : vsum [] = 0 := rfl
@[simp] theorem vsum_cons (a : Vec3) (l : List Vec3) : vsum (a :: l) = a + vsum l := rfl

theorem vsum_append (l1 l2 : List Vec3) : vsum (l1 ++ l2) = vsum l1 + vsum l2 := by
  induction l1 with
  | nil => simp
  | cons a l ih => simp [ih, Vec3.add_assoc]

theorem vsum_map_add {α} (l : List α) (f g : α → Vec3) :
    vsum (l.map (fun x => f x + g x)) = vsum (l.map f) + vsum (l.map g) := by
  induction l with
  | nil => simp
  | cons a l ih =>
    simp only [List.map_cons, vsum_cons, ih, Vec3.add_assoc]
    rw [Vec3.add_left_comm (g a)]

theorem vsum_map_zero {α} (l : List α) (f : α → Vec3) (h : ∀ x ∈ l, f x = 0) :
    vsum (l.map f) = 0 := by
  induction l with
  | nil => rfl
  | cons a l ih =>
    rw [List.map_cons, vsum_cons, h a (by simp), ih (fun x hx => h x (by simp [hx])), Vec3.add_zero]

theorem vsum_map_congr {α} (l : List α) (f g : α → Vec3) (h : ∀ x ∈ l, f x = g x) :
    vsum (l.map f) = vsum (l.map g) := by
  rw [List.map_congr_left h]

theorem vsum_flatMap {α β} (l : List α) (f : α → List β) (g : β → Vec3) :
    vsum ((l.flatMap f).map g) = vsum (l.map (fun a => vsum ((f a).map g))) := by
  induction l with
  | nil => rfl
  | cons a l ih => simp [List.flatMap_cons, vsum_append, ih]

theorem vsum_map_smul {α} (c : Rat) (l : List α) (f : α → Vec3) :
    vsum (l.map (fun x => c • f x)) = c • vsum (l.map f) := by
  induction l with
  | nil => simp
  | cons a l ih => simp only [List.map_cons, vsum_cons, ih, Vec3.smul_add]

theorem vsum_comm {α β} (l1 : List α) (l2 : List β) (f : α → β → Vec3) :
    vsum (l1.map (fun a => vsum (l2.map (fun b => f a b))))
      = vsum (l2.map (fun b => vsum (l1.map (fun a => f a b)))) := by
  induction l1 with
  | nil => exact (vsum_map_zero l2 _ (fun _ _ => rfl)).symm
  | cons a l ih => simp only [List.map_cons, vsum_cons, ih, ← vsum_map_add]

theorem vsum_range_ite (n i : Nat) (hi : i < n) (f : Nat → Vec3) :
    vsum ((List.range n).map (fun a => if a = i then f a else 0)) = f i := by
  induction n with
  | zero => omega
  | succ n ih =>
    rw [List.range_succ, List.map_append, vsum_append]
    by_cases h : i < n
    · have : n ≠ i := by omega
      simp [ih h, this]
    · have hn : i = n := by omega
      subst hn
      rw [vsum_map_zero _ _ (fun x hx => if_neg (Nat.ne_of_lt (List.mem_range.mp hx)))]
      simp

theorem vsum_range_congr (n : Nat) (f g : Nat → Vec3) (h : ∀ i, i < n → f i = g i) :
    vsum ((List.range n).map f) = vsum ((List.range n).map g) :=
  vsum_map_congr _ _ _ (fun i hi => h i (List.mem_range.mp hi))

theorem vsum_map_ite_filter {α} (l : List α) (p : α → Prop) [DecidablePred p] (f : α → Vec3) :
    vsum (l.map (fun x => if p x then f x else 0)) = vsum ((l.filter (fun x => decide (p x))).map f) := by
  induction l with
  | nil => rfl
  | cons a l ih => by_cases h : p a <;> simp [h, ih]

/-! ### particles, states -/

@[simp] theorem setTag_tag (p : Particle) (k k' : Key) (x : Vec3) :
    (p.setTag k x).tag k' = if k' = k then x else p.tag k' := rfl
@[simp] theorem setTag_colour (p : Particle) (k : Key) (x : Vec3) : (p.setTag k x).colour = p.colour := rfl
@[simp] theorem setTag_slot (p : Particle) (k : Key) (x : Vec3) : (p.setTag k x).slot = p.slot := rfl
@[simp] theorem setTag_frozen (p : Particle) (k : Key) (x : Vec3) : (p.setTag k x).frozen = p.frozen := rfl
@[simp] theorem setTag_r (p : Particle) (k : Key) (x : Vec3) : (p.setTag k x).r = p.r := rfl
@[simp] theorem setTag_v (p : Particle) (k : Key) (x : Vec3) : (p.setTag k x).v = p.v := rfl

@[simp] theorem addTag_tag (p : Particle) (k k' : Key) (x : Vec3) :
    (p.addTag k x).tag k' = if k' = k then p.tag k + x else p.tag k' := rfl
@[simp] theorem addTag_colour (p : Particle) (k : Key) (x : Vec3) : (p.addTag k x).colour = p.colour := rfl
@[simp] theorem addTag_slot (p : Particle) (k : Key) (x : Vec3) : (p.addTag k x).slot = p.slot := rfl
@[simp] theorem addTag_frozen (p : Particle) (k : Key) (x : Vec3) : (p.addTag k x).frozen = p.frozen := rfl
@[simp] theorem addTag_r (p : Particle) (k : Key) (x : Vec3) : (p.addTag k x).r = p.r := rfl
@[simp] theorem addTag_v (p : Particle) (k : Key) (x : Vec3) : (p.addTag k x).v = p.v := rfl

@[simp] theorem modify_ps (st : State) (i k : Nat) (f : Particle → Particle) :
    (st.modify i f).ps k = if k = i then f (st.ps i) else st.ps k := rfl
@[simp] theorem modify_n (st : State) (i : Nat) (f : Particle → Particle) : (st.modify i f).n = st.n := rfl
@[simp] theorem modify_forceIdx (st : State) (i : Nat) (f : Particle → Particle) :
    (st.modify i f).forceIdx = st.forceIdx := rfl
@[simp] theorem modify_pers (st : State) (i : Nat) (f : Particle → Particle) : (st.modify i f).pers = st.pers := rfl

@[simp] theorem mapFree_ps (st : State) (f : Particle → Particle) (k : Nat) :
    (st.mapFree f).ps k = if (st.ps k).frozen then st.ps k else f (st.ps k) := rfl
@[simp] theorem mapFree_n (st : State) (f : Particle → Particle) : (st.mapFree f).n = st.n := rfl
@[simp] theorem mapFree_forceIdx (st : State) (f : Particle → Particle) : (st.mapFree f).forceIdx = st.forceIdx := rfl
@[simp] theorem mapFree_pers (st : State) (f : Particle → Particle) : (st.mapFree f).pers = st.pers := rfl

theorem Particle.ext' : ∀ {p q : Particle}, p.colour = q.colour → p.slot = q.slot → p.frozen = q.frozen →
    p.r = q.r → p.v = q.v → p.tag = q.tag → p = q
  | ⟨_, _, _, _, _, _⟩, ⟨_, _, _, _, _, _⟩, rfl, rfl, rfl, rfl, rfl, rfl => rfl

theorem State.ext' : ∀ {s s' : State}, s.n = s'.n → s.ps = s'.ps → s.forceIdx = s'.forceIdx → s.pers = s'.pers → s = s'
  | ⟨_, _, _, _⟩, ⟨_, _, _, _⟩, rfl, rfl, rfl, rfl => rfl

theorem addTag_zero (p : Particle) (k : Key) : p.addTag k 0 = p :=
  Particle.ext' rfl rfl rfl rfl rfl (funext fun k' => by rw [addTag_tag, Vec3.add_zero]; split <;> simp [*])

theorem mapFree_mapFree (st : State) (f g : Particle → Particle) (hf : ∀ p, (f p).frozen = p.frozen) :
    (st.mapFree f).mapFree g = st.mapFree (fun p => g (f p)) :=
  State.ext' rfl (funext fun i => by
    by_cases h : (st.ps i).frozen = true <;> simp [h, hf]) rfl rfl

/-! ### frames -/

abbrev Particle.sameId (p q : Particle) : Prop := p.colour = q.colour ∧ p.slot = q.slot ∧ p.frozen = q.frozen

namespace Particle.sameId
variable {p q s : Particle}
theorem refl (p : Particle) : p.sameId p := ⟨rfl, rfl, rfl⟩
theorem symm (h : p.sameId q) : q.sameId p := ⟨h.1.symm, h.2.1.symm, h.2.2.symm⟩
theorem trans (h1 : p.sameId q) (h2 : q.sameId s) : p.sameId s :=
  ⟨h1.1.trans h2.1, h1.2.1.trans h2.2.1, h1.2.2.trans h2.2.2⟩
end Particle.sameId

def Particle.sameBody (p q : Particle) : Prop :=
  p.colour = q.colour ∧ p.slot = q.slot ∧ p.frozen = q.frozen ∧ p.r = q.r ∧ p.v = q.v

namespace Particle.sameBody
variable {p q s : Particle}
theorem colour (h : p.sameBody q) : p.colour = q.colour := h.1
theorem frozen (h : p.sameBody q) : p.frozen = q.frozen := h.2.2.1
theorem sameId (h : p.sameBody q) : p.sameId q := ⟨h.1, h.2.1, h.2.2.1⟩
theorem r (h : p.sameBody q) : p.r = q.r := h.2.2.2.1
theorem v (h : p.sameBody q) : p.v = q.v := h.2.2.2.2
theorem refl (p : Particle) : p.sameBody p := ⟨rfl, rfl, rfl, rfl, rfl⟩
theorem trans (h1 : p.sameBody q) (h2 : q.sameBody s) : p.sameBody s :=
  ⟨h1.1.trans h2.1, h1.2.1.trans h2.2.1, h1.frozen.trans h2.frozen, h1.r.trans h2.r, h1.v.trans h2.v⟩
end Particle.sameBody

structure AgreeOff (W : Key → Prop) (st st' : State) : Prop where
  n : st'.n = st.n
  fi : st'.forceIdx = st.forceIdx
  pers : st'.pers = st.pers
  body : ∀ i, (st'.ps i).sameBody (st.ps i)
  tag : ∀ i key, ¬ W key → (st'.ps i).tag key = (st.ps i).tag key

theorem AgreeOff.refl (W : Key → Prop) (st : State) : AgreeOff W st st :=
  ⟨rfl, rfl, rfl, fun _ => .refl _, fun _ _ _ => rfl⟩

theorem AgreeOff.trans {W : Key → Prop} {s1 s2 s3 : State} (h1 : AgreeOff W s1 s2) (h2 : AgreeOff W s2 s3) :
    AgreeOff W s1 s3 :=
  ⟨h2.n.trans h1.n, h2.fi.trans h1.fi, h2.pers.trans h1.pers, fun i => (h2.body i).trans (h1.body i),
   fun i key hk => (h2.tag i key hk).trans (h1.tag i key hk)⟩

theorem AgreeOff.mono {W W' : Key → Prop} {s s' : State} (h : AgreeOff W s s') (hW : ∀ k, W k → W' k) :
    AgreeOff W' s s' :=
  ⟨h.n, h.fi, h.pers, h.body, fun i key hk => h.tag i key (fun hw => hk (hW key hw))⟩

theorem AgreeOff.mapFree (W : Key → Prop) (st : State) (f : Particle → Particle)
    (hf : ∀ p, (f p).sameBody p ∧ ∀ key, ¬ W key → (f p).tag key = p.tag key) : AgreeOff W st (st.mapFree f) := by
  refine ⟨rfl, rfl, rfl, fun i => ?_, fun i key hk => ?_⟩ <;> rw [mapFree_ps] <;> split
  · exact .refl _
  · exact (hf _).1
  · rfl
  · exact (hf _).2 key hk

theorem foldl_rel {α β} (R : β → β → Prop) (hrefl : ∀ s, R s s) (htrans : ∀ a b c, R a b → R b c → R a c)
    (f : β → α → β) (l : List α) (h : ∀ s a, a ∈ l → R s (f s a)) : ∀ s, R s (l.foldl f s) := by
  induction l with
  | nil => exact hrefl
  | cons a l ih =>
    exact fun s => htrans _ _ _ (h s a (by simp)) (ih (fun s b hb => h s b (by simp [hb])) (f s a))

theorem foldl_rel2 {α β} (R : β → β → Prop) (f g : β → α → β) (l : List α)
    (h : ∀ s s' a, a ∈ l → R s s' → R (f s a) (g s' a)) : ∀ s s', R s s' → R (l.foldl f s) (l.foldl g s') := by
  induction l with
  | nil => exact fun _ _ hr => hr
  | cons a l ih =>
    exact fun s s' hr => ih (fun s s' b hb => h s s' b (by simp [hb])) _ _ (h s s' a (by simp) hr)

theorem AgreeOff.foldl {α} (W : Key → Prop) (f : State → α → State) (l : List α)
    (h : ∀ s a, a ∈ l → AgreeOff W s (f s a)) (s : State) : AgreeOff W s (l.foldl f s) :=
  foldl_rel (AgreeOff W) (AgreeOff.refl W) (fun _ _ _ => AgreeOff.trans) f l h s

structure Pres (st st' : State) : Prop where
  n : st'.n = st.n
  ident : ∀ i, (st'.ps i).colour = (st.ps i).colour ∧ (st'.ps i).slot = (st.ps i).slot ∧
    (st'.ps i).frozen = (st.ps i).frozen
  frozen : ∀ i, (st.ps i).frozen = true → st'.ps i = st.ps i

namespace Pres
variable {st st' : State}

theorem colour_eq (h : Pres st st') (i : Nat) : (st'.ps i).colour = (st.ps i).colour := (h.ident i).1
theorem frozen_eq (h : Pres st st') (i : Nat) : (st'.ps i).frozen = (st.ps i).frozen := (h.ident i).2.2
theorem lt (h : Pres st st') {i : Nat} (hi : i < st.n) : i < st'.n := h.n ▸ hi
theorem free (h : Pres st st') {i : Nat} (hf : (st.ps i).frozen = false) : (st'.ps i).frozen = false :=
  (h.frozen_eq i).trans hf

theorem refl (st : State) : Pres st st := ⟨rfl, fun _ => Particle.sameId.refl _, fun _ _ => rfl⟩

theorem trans {s1 s2 s3 : State} (h1 : Pres s1 s2) (h2 : Pres s2 s3) : Pres s1 s3 :=
  ⟨h2.n.trans h1.n,
   fun i => Particle.sameId.trans (h2.ident i) (h1.ident i),
   fun i hf => (h2.frozen i ((h1.frozen_eq i).trans hf)).trans (h1.frozen i hf)⟩

theorem foldl {α} (f : State → α → State) (l : List α) (h : ∀ s a, a ∈ l → Pres s (f s a)) (s : State) :
    Pres s (l.foldl f s) :=
  foldl_rel Pres refl (fun _ _ _ => trans) f l h s

theorem mapFree (st : State) (f : Particle → Particle)
    (hf : ∀ p, (f p).sameId p) : Pres st (st.mapFree f) := by
  refine ⟨rfl, fun i => ?_, fun i hfz => by simp [hfz]⟩
  rw [mapFree_ps]; split
  · exact ⟨rfl, rfl, rfl⟩
  · exact hf _

theorem ofPs (st st' : State) (h : st'.ps = st.ps) (hn : st'.n = st.n) : Pres st st' :=
  ⟨hn, fun i => by rw [h]; exact ⟨rfl, rfl, rfl⟩, fun i _ => by rw [h]⟩

end Pres

theorem hasFree_congr {s s' : State} (hn : s.n = s'.n)
    (h : ∀ i, (s.ps i).colour = (s'.ps i).colour ∧ (s.ps i).frozen = (s'.ps i).frozen) (c : Nat) :
    hasFree s c = hasFree s' c := by
  simp only [hasFree, hn, h]

theorem Pres.hasFree_eq {st st' : State} (h : Pres st st') (c : Nat) : hasFree st' c = hasFree st c :=
  hasFree_congr h.n (fun i => ⟨h.colour_eq i, h.frozen_eq i⟩) c

/-! ### what an expression can see -/

def isSymKey (key : Key) : Prop := ∃ n, key = .sym n
def isForceKey (k : Bool) (key : Key) : Prop := ∃ d, key = .force d k

theorem isSymKey_sym (n : String) : isSymKey (.sym n) := ⟨n, rfl⟩
theorem not_isSymKey_force {d : Dof} {k : Bool} : ¬ isSymKey (.force d k) := fun ⟨_, h⟩ => nomatch h
theorem not_isForceKey_sym {k : Bool} {n : String} : ¬ isForceKey k (.sym n) := fun ⟨_, h⟩ => nomatch h
theorem not_isForceKey_not {d : Dof} {k : Bool} : ¬ isForceKey k (.force d (!k)) :=
  fun ⟨_, h⟩ => by injection h with _ h; cases k <;> cases h

theorem Expr.eval_congr (e : Expr) (env env' : Env)
    (h1 : env.rij = env'.rij) (h2 : env.ri = env'.ri) (h3 : env.rj = env'.rj)
    (hv : e.usesVel = true → env.vi = env'.vi ∧ env.vj = env'.vj)
    (ht : ∀ n ∈ e.reads, env.ti n = env'.ti n ∧ env.tj n = env'.tj n) : e.eval env = e.eval env' := by
  induction e with
  | num | vec => rfl
  | rij => exact h1
  | pos w => cases w <;> assumption
  | vel w => cases w
             · exact (hv rfl).1
             · exact (hv rfl).2
  | tag w n => cases w
               · exact (ht n (.head _)).1
               · exact (ht n (.head _)).2
  | add a b iha ihb | sub a b iha ihb | mul a b iha ihb | smul a b iha ihb | dot a b iha ihb =>
    have ha := iha (fun h => hv (show (a.usesVel || b.usesVel) = true by rw [h]; rfl))
      (fun n hn => ht n (List.mem_append_left _ hn))
    have hb := ihb (fun h => hv (show (a.usesVel || b.usesVel) = true by rw [h, Bool.or_true]))
      (fun n hn => ht n (List.mem_append_right _ hn))
    simp only [Expr.eval, ha, hb]
  | neg a iha | comp k a iha => simp only [Expr.eval, iha hv ht]

/-- `p` and `q` look the same to the colour and frozen tests of the loops and to every expression that reads only symbols
in `K`, and velocities only if `V` -/
structure SameView (V : Prop) (K : Key → Prop) (p q : Particle) : Prop where
  colour : p.colour = q.colour
  slot : p.slot = q.slot
  frozen : p.frozen = q.frozen
  r : p.r = q.r
  v : V → p.v = q.v
  tag : ∀ k, K k → p.tag k = q.tag k

theorem Particle.sameBody.view {p q : Particle} (h : p.sameBody q) (K : Key → Prop)
    (ht : ∀ k, K k → p.tag k = q.tag k) : SameView True K p q :=
  ⟨h.colour, h.2.1, h.frozen, h.r, fun _ => h.v, ht⟩

theorem dist_congr (b : Box) {p q p' q' : Particle} (hp : p.r = p'.r) (hq : q.r = q'.r) :
    dist b p q = dist b p' q' := by rw [dist, hp, hq]; rfl

section
variable {V : Prop} {K : Key → Prop} {p q p' q' : Particle}

theorem SameView.eval_mkEnv (b : Box) (e : Expr) (hV : e.usesVel = true → V) (hR : ∀ n ∈ e.reads, K (.sym n))
    (hp : SameView V K p p') (hq : SameView V K q q') : e.eval (mkEnv b p q) = e.eval (mkEnv b p' q') :=
  e.eval_congr _ _ (dist_congr b hp.r hq.r) hp.r hq.r (fun h => ⟨hp.v (hV h), hq.v (hV h)⟩)
    (fun n hn => ⟨hp.tag _ (hR n hn), hq.tag _ (hR n hn)⟩)

theorem SameView.eval_envP (e : Expr) (hV : e.usesVel = true → V) (hR : ∀ n ∈ e.reads, K (.sym n))
    (hp : SameView V K p p') : e.eval (envP p) = e.eval (envP p') :=
  e.eval_congr _ _ rfl hp.r hp.r (fun h => ⟨hp.v (hV h), hp.v (hV h)⟩)
    (fun n hn => ⟨hp.tag _ (hR n hn), hp.tag _ (hR n hn)⟩)

theorem SameView.addTag (h : SameView V K p q) (k : Key) (x : Vec3) : SameView V K (p.addTag k x) (q.addTag k x) :=
  ⟨h.colour, h.slot, h.frozen, h.r, h.v, fun k' hk' => by
    rw [addTag_tag, addTag_tag]; split
    · rename_i e; rw [h.tag k (e ▸ hk')]
    · exact h.tag k' hk'⟩

theorem SameView.setTag (h : SameView V K p q) (k : Key) (x : Vec3) : SameView V K (p.setTag k x) (q.setTag k x) :=
  ⟨h.colour, h.slot, h.frozen, h.r, h.v, fun k' hk' => by
    rw [setTag_tag, setTag_tag]; split
    · rfl
    · exact h.tag k' hk'⟩

end

end Sympler.Dyn
